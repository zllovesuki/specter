import SpecterModel.Lists
import SpecterModel.C12.Model
/-!
# C12 — Successor lists are well-formed

All theorems hold for EVERY key function, candidate list (with `none` = nil entries and duplicates)
and `maxLen`; they are instantiated for `byID` / `byAddress` at the end.
-/
namespace Specter.C12

variable {α κ : Type} [DecidableEq κ]

/-- loop invariant: the Go map `seen` holds exactly the keys of `succList`. -/
def SeenInv (key : α → κ) (out : List α) (seen : List κ) : Prop := ∀ k, k ∈ seen ↔ k ∈ out.map key

omit [DecidableEq κ] in
theorem seenInv_init (key : α → κ) (imm : α) : SeenInv key [imm] [key imm] := by intro k; simp

omit [DecidableEq κ] in
theorem seenInv_step {key : α → κ} {out : List α} {seen : List κ} (h : SeenInv key out seen) (s : α) :
    SeenInv key (out ++ [s]) (key s :: seen) := by
  intro k; simp [h k, or_comm]

/-- a candidate whose key is missing from the result was passed over only because the list was full; needs no
distinctness of `out` -/
theorem loop_complete (key : α → κ) (maxLen : Nat) (cands : List (Option α)) (out : List α) (seen : List κ)
    (hinv : SeenInv key out seen) (c : α) (hc : some c ∈ cands) :
    key c ∈ (loop key maxLen cands out seen).map key ∨ maxLen ≤ (loop key maxLen cands out seen).length := by
  have grow : ∀ cs out seen, key c ∈ out.map key → key c ∈ (loop key maxLen cs out seen).map key := by
    intro cs out seen h
    fun_induction loop key maxLen cs out seen with
    | case1 | case2 => exact h
    | case3 _ _ _ _ ih | case4 _ _ _ _ _ _ ih => exact ih h
    | case5 _ _ _ _ _ _ ih => exact ih (by rw [List.map_append]; exact List.mem_append_left _ h)
  fun_induction loop key maxLen cands out seen with
  | case1 => cases hc
  | case2 _ _ _ _ hfull => exact .inr hfull
  | case3 cs out seen hroom ih => exact ih hinv ((List.mem_cons.mp hc).resolve_left nofun)
  | case4 cs out seen hroom s hseen ih =>
    rcases List.mem_cons.mp hc with hc | hc
    · cases hc; exact .inl (grow _ _ _ ((hinv _).mp hseen))
    · exact ih hinv hc
  | case5 cs out seen hroom s hnew ih =>
    rcases List.mem_cons.mp hc with hc | hc
    · cases hc; exact .inl (grow _ _ _ (by simp))
    · exact ih (seenInv_step hinv s) hc

theorem loop_spec (key : α → κ) (maxLen : Nat) (cands : List (Option α)) (out : List α) (seen : List κ)
    (hinv : SeenInv key out seen) (hnd : (out.map key).Nodup) :
    (∃ ext, loop key maxLen cands out seen = out ++ ext ∧ ext.Sublist (cands.filterMap id)) ∧
    ((loop key maxLen cands out seen).map key).Nodup ∧
    (loop key maxLen cands out seen).length ≤ max out.length maxLen := by
  fun_induction loop key maxLen cands out seen with
  | case1 out seen =>  -- no candidate left
    exact ⟨⟨[], (List.append_nil _).symm, .refl _⟩, hnd, Nat.le_max_left _ _⟩
  | case2 c cs out seen hfull =>  -- full: `break`
    exact ⟨⟨[], (List.append_nil _).symm, List.nil_sublist _⟩, hnd, Nat.le_max_left _ _⟩
  | case3 cs out seen hroom ih =>  -- nil entry: `continue`
    exact ih hinv hnd
  | case4 cs out seen hroom s hseen ih =>  -- key seen: `continue`
    obtain ⟨⟨e, h1, hs⟩, h2, h3⟩ := ih hinv hnd
    exact ⟨⟨e, h1, hs.trans (List.sublist_cons_self _ _)⟩, h2, h3⟩
  | case5 cs out seen hroom s hnew ih =>  -- new key: record and append
    have hnd' : ((out ++ [s]).map key).Nodup :=
      List.map_append ▸ nodup_snoc hnd fun m => hnew ((hinv _).mpr m)
    obtain ⟨⟨e, h1, hs⟩, h2, h3⟩ := ih (seenInv_step hinv s) hnd'
    rw [List.append_assoc] at h1
    refine ⟨⟨s :: e, h1, hs.cons_cons s⟩, h2, ?_⟩
    simp only [List.length_append, List.length_singleton] at h3; omega

theorem makeSuccList_spec (key : α → κ) (imm : α) (cands : List (Option α)) (maxLen : Nat) :
    (∃ tl, makeSuccList key imm cands maxLen = imm :: tl ∧ tl.Sublist (cands.filterMap id)) ∧
    ((makeSuccList key imm cands maxLen).map key).Nodup ∧
    (makeSuccList key imm cands maxLen).length ≤ max 1 maxLen :=
  loop_spec key maxLen cands [imm] [key imm] (seenInv_init key imm) (List.pairwise_singleton _ _)

/-- the list starts with the node itself -/
theorem head_is_immediate (key : α → κ) (imm : α) (cands : List (Option α)) (maxLen : Nat) :
    ∃ tl, makeSuccList key imm cands maxLen = imm :: tl :=
  (makeSuccList_spec key imm cands maxLen).1.imp fun _ h => h.1

/-- no two entries share a key (id resp. address) -/
theorem nodup_keys (key : α → κ) (imm : α) (cands : List (Option α)) (maxLen : Nat) :
    ((makeSuccList key imm cands maxLen).map key).Nodup :=
  (makeSuccList_spec key imm cands maxLen).2.1

/-- after the head, a subsequence of the non-nil candidates: order kept, nothing foreign added -/
theorem sublist (key : α → κ) (imm : α) (cands : List (Option α)) (maxLen : Nat) :
    (makeSuccList key imm cands maxLen).tail.Sublist (cands.filterMap id) := by
  obtain ⟨tl, h, hs⟩ := (makeSuccList_spec key imm cands maxLen).1
  rwa [h]

/-- never longer than requested (for `maxLen ≥ 1`, the property's quantifier) -/
theorem length_le (key : α → κ) (imm : α) (cands : List (Option α)) (maxLen : Nat) (h : 1 ≤ maxLen) :
    (makeSuccList key imm cands maxLen).length ≤ maxLen :=
  Nat.le_trans (makeSuccList_spec key imm cands maxLen).2.2 (Nat.max_le.mpr ⟨h, Nat.le_refl _⟩)

/-- a candidate whose key is absent from the result was dropped only because the list is full -/
theorem maximal (key : α → κ) (imm : α) (cands : List (Option α)) (maxLen : Nat) (h : 1 ≤ maxLen)
    (c : α) (hc : some c ∈ cands) (hk : key c ∉ (makeSuccList key imm cands maxLen).map key) :
    (makeSuccList key imm cands maxLen).length = maxLen :=
  Nat.le_antisymm (length_le key imm cands maxLen h)
    ((loop_complete key maxLen cands [imm] [key imm] (seenInv_init key imm) c hc).resolve_left hk)

/-- explicit edge outside the quantifier: `maxLen = 0` still returns the one-element list -/
theorem maxLen_zero (key : α → κ) (imm : α) (cands : List (Option α)) :
    makeSuccList key imm cands 0 = [imm] := by
  cases cands <;> simp [makeSuccList, loop]

/-- the executable spec predicate used by the driver accepts every model output (inside the quantifier) -/
theorem model_wellFormed (key : Node → κ) (imm : Node) (cands : List (Option Node)) (maxLen : Nat)
    (h : 1 ≤ maxLen) : wellFormed key imm cands maxLen (makeSuccList key imm cands maxLen) = none := by
  have h2 := nodup_keys key imm cands maxLen
  have h4 := length_le key imm cands maxLen h
  obtain ⟨tl, htl, h3⟩ := (makeSuccList_spec key imm cands maxLen).1
  rw [htl] at h2 h4 ⊢
  rw [wellFormed, if_neg (not_not_intro rfl), if_neg (not_not_intro h2),
    if_neg (not_not_intro (List.isSublist_iff_sublist.mpr h3)), if_neg (Nat.not_lt.mpr h4)]

theorem byID_wellFormed (imm : Node) (cands : List (Option Node)) (maxLen : Nat) (h : 1 ≤ maxLen) :
    wellFormed Node.id imm cands maxLen (byID imm cands maxLen) = none := model_wellFormed _ _ _ _ h
theorem byAddress_wellFormed (imm : Node) (cands : List (Option Node)) (maxLen : Nat) (h : 1 ≤ maxLen) :
    wellFormed Node.addr imm cands maxLen (byAddress imm cands maxLen) = none := model_wellFormed _ _ _ _ h

/-! non-vacuity -/
def n (i : Nat) (a : String) (t : Nat) : Node := ⟨i, a, t⟩
example : byID (n 1 "a" 0) [some (n 2 "a" 1), none, some (n 1 "b" 2), some (n 2 "c" 3), some (n 3 "a" 4), some (n 4 "d" 5)] 3
    = [n 1 "a" 0, n 2 "a" 1, n 3 "a" 4] := by decide +kernel
example : byAddress (n 1 "a" 0) [some (n 2 "a" 1), none, some (n 1 "b" 2), some (n 2 "c" 3), some (n 3 "a" 4)] 6
    = [n 1 "a" 0, n 1 "b" 2, n 2 "c" 3] := by decide +kernel
-- `maximal` hypotheses are satisfiable: candidate 4 is dropped only because the list is full
example : some (n 4 "d" 5) ∈ [some (n 2 "a" 1), some (n 3 "a" 4), some (n 4 "d" 5)] ∧
    (4 : Nat) ∉ (byID (n 1 "a" 0) [some (n 2 "a" 1), some (n 3 "a" 4), some (n 4 "d" 5)] 3).map Node.id := by decide +kernel
-- the spec predicate is not trivially `none`
example : wellFormed Node.id (n 1 "a" 0) [some (n 1 "b" 1)] 3 [n 1 "a" 0, n 1 "b" 1] = some "duplicate-key" := by decide +kernel
example : wellFormed Node.id (n 1 "a" 0) [some (n 2 "b" 1), some (n 3 "c" 2)] 3 [n 1 "a" 0, n 3 "c" 2, n 2 "b" 1]
    = some "order-or-foreign-entry" := by decide +kernel

end Specter.C12
