import SpecterModel.C14.Model
/-!
# C14 — Chord errors keep their identity and retryability across RPC

General lemmas for ANY error map with pairwise distinct messages (the caller's value depends on the message alone),
then the instances for the tables GENERATED from spec/chord/errors.go and chord/server_rpc.go (`Gen.C14`). The table
facts (`msgs_distinct`, `externals_retryable_preregistered`, `deadline_preregistered`, `lease_entries`, `facts_*`) are
evaluated by the kernel again whenever the generated text changes; what else is said of the tables follows from these.
Then: wrappers that keep the sentinel's text, the handler as a whole, the lease requests of a real node. A REGRESSION
WITNESS shows what a repaired (or hypothetical) defect would make of the property.
-/
namespace Specter.C14

/-! ## general lemmas -/

theorem find_of_nodup {α β : Type} [DecidableEq β] (f : α → β) (l : List α) (hnd : (l.map f).Nodup)
    (e : α) (he : e ∈ l) : l.find? (fun x => f x == f e) = some e := by
  induction l with
  | nil => cases he
  | cons x t ih =>
    obtain ⟨hx, ht⟩ := List.nodup_cons.mp hnd
    rw [List.find?_cons]
    rcases List.mem_cons.mp he with rfl | he
    · rw [beq_self_eq_true]
    · -- `f e` occurs in `t.map f`, `f x` does not
      rw [beq_false_of_ne (fun h : f x = f e => hx (h ▸ List.mem_map_of_mem he))]
      exact ih ht he

/-- `errorStrMap[msg]` finds the entry: the messages are distinct, so no later entry overwrote it -/
theorem mapper_reg {mp : List Entry} (hnd : (mp.map Entry.msg).Nodup) {e : Entry} (he : e ∈ mp) {w : Wire}
    (hw : w.msg = e.msg) : mapper mp w = .reg e := by
  have hnd' : (mp.reverse.map Entry.msg).Nodup := by
    rw [List.map_reverse]; exact (List.reverse_perm _).nodup_iff.mpr hnd
  rw [mapper, hw, find_of_nodup Entry.msg _ hnd' e (List.mem_reverse.mpr he)]

theorem mapper_unknown (mp : List Entry) (w : Wire) (h : w.msg ∉ mp.map Entry.msg) :
    mapper mp w = .twirp w.code w.msg w.kv := by
  have : mp.reverse.find? (fun e => e.msg == w.msg) = none := by
    rw [List.find?_eq_none]
    intro x hx hm
    exact h (List.mem_map.mpr ⟨x, List.mem_reverse.mp hx, eq_of_beq hm⟩)
  rw [mapper, this]

theorem retryable_reg {kn : List Entry} {e : Entry} (he : e ∈ kn) : retryable kn (.reg e) = e.retryable := by
  rw [retryable, List.contains_iff_mem.mpr he, Bool.true_and]

theorem wrapErr_msg (known : List Entry) (how : String) (key : String) (x : GoErr) :
    (wrapErr known how key x).msg = x.msg := by
  fun_cases wrapErr known how key x <;> rfl

/-- **the key has no influence on what identifies the error**: code and message on the wire are the same for any two
keys; the key only shows in the meta entry "kv" of WrapErrorKV handlers -/
theorem wire_independent_of_key (kn : List Entry) (how : String) (k1 k2 : String) (x : GoErr) :
    (wrapErr kn how k1 x).code = (wrapErr kn how k2 x).code ∧ (wrapErr kn how k1 x).msg = (wrapErr kn how k2 x).msg := by
  fun_cases wrapErr kn how k1 x <;> fun_cases wrapErr kn how k2 x
  · exact ⟨rfl, rfl⟩  -- both raw
  · contradiction
  · contradiction
  · exact ⟨rfl, rfl⟩  -- both wrapped: the code depends on `retryable kn x` only

theorem wire_kv (kn : List Entry) (key : String) (x : GoErr) :
    (wrapErr kn "WrapErrorKV" key x).kv = some key ∧ (wrapErr kn "WrapError" key x).kv = none ∧
    (wrapErr kn "raw" key x).kv = none := by
  refine ⟨?_, ?_, ?_⟩ <;> simp [wrapErr]

/-- the wire code is `failed_precondition` exactly for retryable origins (wrapping handlers) -/
theorem code_matches_retryability (how : String) (key : String) (x : GoErr) (hw : how ≠ "raw") :
    (wrapErr known how key x).code = "failed_precondition" ↔ retryable known x = true := by
  fun_cases wrapErr known how key x
  · contradiction  -- a raw return
  · cases retryable known x <;> simp

/-- what the caller can tell about ANY origin error (its retryability, which sentinels it `Is`, its text) does not
depend on the key the request carried -/
theorem caller_view_independent_of_key (kn mp : List Entry) (how : String) (k1 k2 : String) (x : GoErr) :
    retryable kn (acrossRPC kn mp how k1 x) = retryable kn (acrossRPC kn mp how k2 x) ∧
    (∀ e, (acrossRPC kn mp how k1 x).is e = (acrossRPC kn mp how k2 x).is e) ∧
    (acrossRPC kn mp how k1 x).msg = (acrossRPC kn mp how k2 x).msg := by
  unfold acrossRPC mapper
  have h := wire_independent_of_key kn how k1 k2 x
  rw [wrapErr_msg kn how k1 x, wrapErr_msg kn how k2 x]
  cases hf : List.find? (fun e => e.msg == x.msg) mp.reverse with
  | some e => exact ⟨rfl, fun _ => rfl, rfl⟩
  | none =>
    refine ⟨rfl, fun _ => rfl, ?_⟩
    simp only [GoErr.msg, h.1]

/-- the caller's value depends on the message alone: whatever carries the message of a mapped error `e` arrives as `e` -/
theorem identity_by_text_gen (kn mp : List Entry) (hnd : (mp.map Entry.msg).Nodup) (how : String) (key : String)
    (x : GoErr) (e : Entry) (he : e ∈ mp) (hm : x.msg = e.msg) : acrossRPC kn mp how key x = .reg e :=
  mapper_reg hnd he ((wrapErr_msg kn how key x).trans hm)

theorem identity_preserved_gen (known mp : List Entry) (hnd : (mp.map Entry.msg).Nodup) (how : String) (key : String)
    (e : Entry) (he : e ∈ mp) : acrossRPC known mp how key (.reg e) = .reg e :=
  identity_by_text_gen known mp hnd how key (.reg e) e he rfl

theorem unknown_nonretryable_gen (known mp : List Entry) (how : String) (key : String) (x : GoErr)
    (h : x.msg ∉ mp.map Entry.msg) :
    ∃ c kv, acrossRPC known mp how key x = .twirp c x.msg kv ∧ retryable known (acrossRPC known mp how key x) = false := by
  unfold acrossRPC
  have hm := wrapErr_msg known how key x
  rw [mapper_unknown mp _ (by rw [hm]; exact h), hm]
  exact ⟨_, _, rfl, rfl⟩

/-! ## the generated facts -/

/-- the table fact everything rests on -/
theorem msgs_distinct : (mapped.map Entry.msg).Nodup := by decide +kernel

theorem externals_retryable_preregistered :
    ∀ e ∈ externals, e.retryable = true → Gen.C14.mapInit.contains e.name = true := by decide +kernel

/-- every error the origin classifies as retryable is in the error map (so none loses its retryability) -/
theorem retryable_all_mapped : ∀ e ∈ known, e.retryable = true → e ∈ mapped := by
  intro e he hr
  rcases List.mem_append.mp he with h | h
  · exact List.mem_append_left _ (List.mem_filter.mpr ⟨h, externals_retryable_preregistered e h hr⟩)
  · exact List.mem_append_right _ h

theorem mapped_known : ∀ e ∈ mapped, e ∈ known :=
  fun _ he => (List.filter_sublist.append_right registry).subset he

/-- the code selection extracted from rpc.WrapError / rpc.WrapErrorKV: `twirp.FailedPrecondition` for a retryable
error, `twirp.Internal` otherwise. `wrapErr` writes the same two codes in their wire spelling ("failed_precondition",
"internal"); no theorem ties the two spellings. -/
theorem facts_wrapCodes :
    Gen.C14.wrapCodes = [("WrapError", "FailedPrecondition", "Internal"), ("WrapErrorKV", "FailedPrecondition", "Internal")] :=
  rfl

/-- the message put on the wire is `err.Error()` itself (not a function of the key), the key goes to the meta
entry "kv" only — as extracted from rpc.WrapError / rpc.WrapErrorKV -/
theorem facts_wrapMsg :
    Gen.C14.wrapMsg = [("WrapError", "err.Error()", "-"), ("WrapErrorKV", "err.Error()", "key")] :=
  rfl

/-- the handlers that wrap with WrapErrorKV are exactly those listed with a key, and every such key is a field of
the request (key / prefix / lease name): chosen by the remote caller, of any length -/
theorem facts_handlerKeys :
    Gen.C14.handlerKeys.map (·.1) = (Gen.C14.handlers.filter (fun h => h.2 == "WrapErrorKV")).map (·.1) ∧
    ∀ h ∈ Gen.C14.handlerKeys, h.2 ∈ ["string(req.GetKey())", "string(req.GetPrefix())", "string(req.GetLease())"] := by
  decide +kernel

/-- **C14 (identity).** Every mapped error a node returns — through a handler that wraps with
`rpc.WrapError`, `rpc.WrapErrorKV`, or returns it raw — is recognised by the caller as the same error. -/
theorem identity_preserved (how : String) (key : String) (e : Entry) (he : e ∈ mapped) :
    acrossRPC known mapped how key (.reg e) = .reg e :=
  identity_preserved_gen known mapped msgs_distinct how key e he

/-- **C14 (retryability).** … and is classified retryable by the caller exactly when it was at the origin. -/
theorem retryability_preserved (how : String) (key : String) (e : Entry) (he : e ∈ mapped) :
    retryable known (acrossRPC known mapped how key (.reg e)) = retryable known (.reg e) := by
  rw [identity_preserved how key e he]

/-- … in particular every sentinel that is retryable at the origin stays retryable at the caller. -/
theorem retryable_origin_stays_retryable (how : String) (key : String) (e : Entry) (he : e ∈ known) (hr : e.retryable = true) :
    retryable known (acrossRPC known mapped how key (.reg e)) = true := by
  rw [retryability_preserved how key e (retryable_all_mapped e he hr), retryable_reg he, hr]

/-- **C14 (unknown).** An error whose message is not in the error map — an arbitrary error, a wrapped one —
reaches the caller as an unmapped twirp error and is NOT retryable there. -/
theorem unknown_nonretryable (how : String) (key : String) (x : GoErr) (h : x.msg ∉ mapped.map Entry.msg) :
    retryable known (acrossRPC known mapped how key x) = false := by
  obtain ⟨_, _, _, h2⟩ := unknown_nonretryable_gen known mapped how key x h; exact h2

/-- **C14 for every key.** Through a KV / lease handler (`rpc.WrapErrorKV(key, err)`) all of the above holds whatever
key, prefix or lease name — of ANY length — the caller sent. -/
theorem kv_any_key_preserved (key : String) :
    (∀ e ∈ mapped, acrossRPC known mapped "WrapErrorKV" key (.reg e) = .reg e ∧
      retryable known (acrossRPC known mapped "WrapErrorKV" key (.reg e)) = retryable known (.reg e)) ∧
    (∀ x : GoErr, x.msg ∉ mapped.map Entry.msg → retryable known (acrossRPC known mapped "WrapErrorKV" key x) = false) :=
  ⟨fun e he => ⟨identity_preserved _ key e he, retryability_preserved _ key e he⟩,
   fun x h => unknown_nonretryable _ key x h⟩

/-- REGRESSION WITNESS (the message must reach the caller VERBATIM): if what arrives is not exactly a mapped message —
e.g. the message of a retryable mapped error `e` cut short because the key used up a size budget shared with it — the
caller gets an unmapped twirp error, non-retryable although the origin classified `e` retryable. -/
theorem message_must_arrive_verbatim (e : Entry) (he : e ∈ mapped) (hr : e.retryable = true) (code m : String)
    (kv : Option String) (hm : m ∉ mapped.map Entry.msg) :
    retryable known (.reg e) = true ∧
    mapper mapped ⟨code, m, kv⟩ ≠ .reg e ∧
    (∀ e', (mapper mapped ⟨code, m, kv⟩).is e' = false) ∧
    retryable known (mapper mapped ⟨code, m, kv⟩) = false := by
  rw [mapper_unknown mapped ⟨code, m, kv⟩ hm]
  exact ⟨(retryable_reg (mapped_known e he)).trans hr, nofun, fun _ => rfl, rfl⟩

/-- FACT (outside the reachable domain: no handler returns a `%w`-wrapped chord error): wrapping a mapped
error changes the message, so the caller gets an unmapped twirp error, identity and retryability are lost. -/
theorem wrapped_loses_identity (how : String) (key : String) (e : Entry) (he : e ∈ mapped) (m : String)
    (hm : m ∉ mapped.map Entry.msg) :
    retryable known (.wrap m (.reg e)) = e.retryable ∧
    acrossRPC known mapped how key (.wrap m (.reg e)) ≠ .reg e ∧
    retryable known (acrossRPC known mapped how key (.wrap m (.reg e))) = false := by
  obtain ⟨c, kv, h1, h2⟩ := unknown_nonretryable_gen known mapped how key (.wrap m (.reg e)) hm
  exact ⟨retryable_reg (mapped_known e he), h1 ▸ nofun, h2⟩

def deadlineEntry : Entry := ("context.DeadlineExceeded", "context deadline exceeded", true)

theorem deadline_preregistered : deadlineEntry ∈ externals.filter (fun e => Gen.C14.mapInit.contains e.name) := by
  decide +kernel

theorem deadline_mapped : deadlineEntry ∈ mapped := List.mem_append_left _ deadline_preregistered

theorem deadline_retryable : retryable known (.reg deadlineEntry) = true :=
  retryable_reg (mapped_known _ deadline_mapped)

/-- **C14 (deadline, current code).** `context.DeadlineExceeded` is retryable at the origin and arrives as
`context.DeadlineExceeded` itself, retryable at the caller. -/
theorem deadline_preserved (how : String) (key : String) :
    retryable known (.reg deadlineEntry) = true ∧
    acrossRPC known mapped how key (.reg deadlineEntry) = .reg deadlineEntry ∧
    retryable known (acrossRPC known mapped how key (.reg deadlineEntry)) = true :=
  ⟨deadline_retryable, identity_preserved how key _ deadline_mapped,
    (retryability_preserved how key _ deadline_mapped).trans deadline_retryable⟩

/-- REGRESSION WITNESS (pre-fix: `mappedPreFix`, the error map before the repair = the registry alone): the deadline
error was retryable at the origin, went out with code failed_precondition, and arrived as an unmapped twirp error,
NON-retryable. -/
theorem deadline_not_preserved_prefix (how : String) (key : String) :
    retryable known (.reg deadlineEntry) = true ∧
    (how ≠ "raw" → (wrapErr known how key (.reg deadlineEntry)).code = "failed_precondition") ∧
    retryable known (acrossRPC known mappedPreFix how key (.reg deadlineEntry)) = false := by
  refine ⟨deadline_retryable, fun hw => (code_matches_retryability how key _ hw).mpr deadline_retryable, ?_⟩
  -- the repaired map is the pre-registered externals in front of the registry, and its messages are distinct
  have hnd : ((externals.filter _).map Entry.msg ++ registry.map Entry.msg).Nodup :=
    List.map_append ▸ msgs_distinct
  have hno : (GoErr.reg deadlineEntry).msg ∉ mappedPreFix.map Entry.msg := fun hmem =>
    (List.nodup_append.mp hnd).2.2 _ (List.mem_map_of_mem deadline_preregistered) _ hmem rfl
  obtain ⟨_, _, _, h2⟩ := unknown_nonretryable_gen known mappedPreFix how key (.reg deadlineEntry) hno
  exact h2

/-! ## wrapped errors: `ErrorIsRetryable` looks through wrappers (`errors.Is`), the caller sees only the text -/

/-- `ErrorIsRetryable(x)` holds exactly when `errors.Is(x, e)` for some retryable known sentinel `e`. -/
theorem retryable_iff_is (kn : List Entry) (x : GoErr) :
    retryable kn x = true ↔ ∃ e ∈ kn, e.retryable = true ∧ x.is e = true := by
  fun_induction retryable kn x with
  | case1 e' =>  -- a sentinel itself
    simp only [GoErr.is, Bool.and_eq_true, List.contains_iff_mem, decide_eq_true_eq]
    constructor
    · rintro ⟨hm, hr⟩; exact ⟨e', hm, hr, rfl⟩
    · rintro ⟨e, hm, hr, rfl⟩; exact ⟨hm, hr⟩
  | case2 m => simp [GoErr.is]
  | case3 m inner ih => simpa only [GoErr.is] using ih  -- a wrapper: both look at the inner error
  | case4 c m kv => simp [GoErr.is]

/-- an error that `Is` the sentinel `e` is classified like `e` itself, however deeply it is wrapped -/
theorem retryable_of_is (kn : List Entry) (x : GoErr) (e : Entry) (h : x.is e = true) :
    retryable kn x = retryable kn (.reg e) := by
  fun_induction GoErr.is x e with
  | case1 e' e => cases of_decide_eq_true h; rfl  -- a sentinel: it is `e`
  | case2 => cases h
  | case3 m inner e ih => exact ih h
  | case4 => cases h

/-- **C14 (wrapped, same text).** An error that wraps a mapped sentinel `e` (`errors.Is(x, e)`) without changing
its text is recognised by the caller as `e`, and is classified retryable by the caller exactly when it was at the
origin — this is where the origin's `errors.Is` (not `==`) is needed. -/
theorem text_preserving_wrapper_preserved (how : String) (key : String) (x : GoErr) (e : Entry) (he : e ∈ mapped)
    (his : x.is e = true) (hm : x.msg = e.msg) :
    acrossRPC known mapped how key x = .reg e ∧
    retryable known (acrossRPC known mapped how key x) = retryable known x := by
  have h := identity_by_text_gen known mapped msgs_distinct how key x e he hm
  exact ⟨h, by rw [h, retryable_of_is known x e his]⟩

theorem sameText_is (e : Entry) (n : Nat) : (sameText e n).is e = true := by
  fun_induction sameText e n with
  | case1 => exact decide_eq_true rfl
  | case2 n ih => exact ih

theorem sameText_msg (e : Entry) (n : Nat) : (sameText e n).msg = e.msg := by
  cases n <;> rfl

/-- … for every nesting depth of `fmt.Errorf("%w", ·)` / `errors.Join(·)` / text-preserving wrapper types, every
mapped error (registry + deadline) and every handler kind; with the origin's classification spelled out. -/
theorem sameText_preserved (how : String) (key : String) (e : Entry) (he : e ∈ mapped) (n : Nat) :
    acrossRPC known mapped how key (sameText e n) = .reg e ∧
    retryable known (sameText e n) = e.retryable ∧
    retryable known (acrossRPC known mapped how key (sameText e n)) = retryable known (sameText e n) := by
  obtain ⟨h1, h2⟩ := text_preserving_wrapper_preserved how key (sameText e n) e he (sameText_is e n) (sameText_msg e n)
  exact ⟨h1, (retryable_of_is known _ e (sameText_is e n)).trans (retryable_reg (mapped_known e he)), h2⟩

/-- REGRESSION WITNESS (`err == e` instead of `errors.Is(err, e)` in ErrorIsRetryable): a retryable mapped error
inside a text-preserving wrapper is classified NON-retryable at the origin, while the caller — whatever code went
on the wire — maps the text back to the sentinel and classifies it retryable: origin and caller disagree. -/
theorem unwrap_is_needed (e : Entry) (he : e ∈ mapped) (hr : e.retryable = true) (n : Nat) (code : String) (kv : Option String) :
    retryableEq known (sameText e (n + 1)) = false ∧
    retryableEq known (mapper mapped ⟨code, (sameText e (n + 1)).msg, kv⟩) = true ∧
    retryable known (mapper mapped ⟨code, (sameText e (n + 1)).msg, kv⟩) = true := by
  have hk : retryable known (.reg e) = true := (retryable_reg (mapped_known e he)).trans hr
  rw [mapper_reg msgs_distinct he (sameText_msg e (n + 1))]
  exact ⟨rfl, hk, hk⟩

/-! ## the handler as a whole: the local node's answer, whatever the request, reaches the caller unchanged -/

/-- FACT extracted from chord/server_rpc.go: every handler is listed; EVERY error return of every handler has the
handler's one form (WrapError / WrapErrorKV / raw) and returns the `err` of a call on `r.LocalNode` or of `r.Factory`
(no handler answers with an error of its own making, e.g. a validation of request fields); and every handler that can
fail returns the error of its `r.LocalNode` call. -/
theorem facts_handlerReturns :
    Gen.C14.handlerReturns.map (·.1) = Gen.C14.handlers.map (·.1) ∧
    (∀ h ∈ Gen.C14.handlerReturns, ∀ r ∈ h.2,
      r.1 = howOf Gen.C14.handlers h.1 ∧ (r.2.1 = "r.LocalNode" ∨ (r.2.1 = "r" ∧ r.2.2 = "Factory"))) ∧
    (∀ h ∈ Gen.C14.handlerReturns, howOf Gen.C14.handlers h.1 ≠ "none" → ∃ r ∈ h.2, r.2.1 = "r.LocalNode") := by
  decide +kernel

/-- **C14 through the whole handler, for EVERY request.** `loc` is whatever the local node answers; the request (key,
ttl, token, …) is quantified away, since the handler adds nothing of its own (`facts_handlerReturns`). -/
theorem handler_transparent (how key : String) :
    callerSees known mapped how key none = none ∧
    (∀ e ∈ mapped, callerSees known mapped how key (some (.reg e)) = some (.reg e)) ∧
    (∀ x : GoErr, x.msg ∉ mapped.map Entry.msg →
      ∃ y, callerSees known mapped how key (some x) = some y ∧ retryable known y = false) :=
  ⟨rfl, fun e he => congrArg some (identity_preserved how key e he),
   fun x hx => ⟨_, rfl, unknown_nonretryable how key x hx⟩⟩

/-- `durationGuard` accepts exactly the ttls of at least a second (truncation toward zero: 999 999 999 ns, 0 and every
negative ttl are refused; 1.5 s is accepted) -/
theorem ttlOk_iff (ttl : Int) : ttlOk ttl = true ↔ second ≤ ttl := by
  unfold ttlOk second
  rw [decide_eq_true_iff, Int.tdiv_eq_ediv, show Int.sign 1000000000 = 1 from rfl]
  split <;> omega

def invalidTTL : Entry := ("ErrKVLeaseInvalidTTL", "chord/kv: lease ttl must be greater than a second", false)
def leaseConflict : Entry := ("ErrKVLeaseConflict", "chord/kv: lease has not expired or was acquired by a different requester", false)
def leaseExpired : Entry := ("ErrKVLeaseExpired", "chord/kv: lease has expired with the given token", false)

theorem lease_entries :
    errNamed known "ErrKVLeaseInvalidTTL" = .reg invalidTTL ∧ invalidTTL ∈ mapped ∧
    errNamed known "ErrKVLeaseConflict" = .reg leaseConflict ∧ leaseConflict ∈ mapped ∧
    errNamed known "ErrKVLeaseExpired" = .reg leaseExpired ∧ leaseExpired ∈ mapped := by
  decide +kernel

theorem leaseOutcome_cases (kn : List Entry) {P : Option GoErr → Prop} (granted : P none)
    (invalid : P (some (errNamed kn "ErrKVLeaseInvalidTTL"))) (conflict : P (some (errNamed kn "ErrKVLeaseConflict")))
    (expired : P (some (errNamed kn "ErrKVLeaseExpired"))) (op : LeaseOp) (ttl : Int) (st : LeaseSt) :
    P (leaseOutcome kn op ttl st) := by
  fun_cases leaseOutcome kn op ttl st <;> assumption

/-- every answer of the node to a lease request is a mapped registry error (or success) -/
theorem leaseOutcome_mapped (op : LeaseOp) (ttl : Int) (st : LeaseSt) :
    leaseOutcome known op ttl st = none ∨ ∃ e ∈ mapped, leaseOutcome known op ttl st = some (.reg e) := by
  obtain ⟨h1, m1, h2, m2, h3, m3⟩ := lease_entries
  exact leaseOutcome_cases known (P := fun o => o = none ∨ ∃ e ∈ mapped, o = some (.reg e)) (.inl rfl)
    (.inr ⟨_, m1, congrArg some h1⟩) (.inr ⟨_, m2, congrArg some h2⟩) (.inr ⟨_, m3, congrArg some h3⟩) op ttl st

/-- **C14 for lease requests, every ttl / lease state / lease name.** What the node answers to Acquire / Renew /
Release — granted, ErrKVLeaseInvalidTTL, ErrKVLeaseConflict, ErrKVLeaseExpired — is what the remote caller gets, with
the origin's retryability. -/
theorem lease_request_preserved (key : String) (op : LeaseOp) (ttl : Int) (st : LeaseSt) :
    callerSees known mapped "WrapErrorKV" key (leaseOutcome known op ttl st) = leaseOutcome known op ttl st ∧
    (∀ x, leaseOutcome known op ttl st = some x →
      ∃ y, callerSees known mapped "WrapErrorKV" key (some x) = some y ∧ retryable known y = retryable known x) := by
  rcases leaseOutcome_mapped op ttl st with h | ⟨e, he, h⟩
  · rw [h]; exact ⟨rfl, fun x hx => by cases hx⟩
  · rw [h]
    have ht := (handler_transparent "WrapErrorKV" key).2.1 e he
    refine ⟨ht, fun x hx => ?_⟩
    cases hx
    exact ⟨_, ht, rfl⟩

/-- **a ttl below one second** (0, 500 ms, 999 999 999 ns, any negative ttl), whatever the lease's state and name: the
node answers Acquire and Renew with ErrKVLeaseInvalidTTL, non-retryable — and so does the remote caller see it. -/
theorem lease_invalid_ttl_preserved (key : String) (op : LeaseOp) (hop : op ≠ .release) (ttl : Int) (h : ttl < second)
    (st : LeaseSt) :
    leaseOutcome known op ttl st = some (.reg invalidTTL) ∧
    retryable known (.reg invalidTTL) = false ∧
    callerSees known mapped "WrapErrorKV" key (leaseOutcome known op ttl st) = some (.reg invalidTTL) := by
  have hno : ttlOk ttl = false := Bool.eq_false_iff.mpr fun hk => absurd ((ttlOk_iff ttl).mp hk) (by omega)
  have ho : leaseOutcome known op ttl st = some (.reg invalidTTL) := by
    rw [← lease_entries.1]
    cases op with
    | release => exact absurd rfl hop
    | acquire | renew => simp only [leaseOutcome, hno, Bool.not_false, if_true]
  exact ⟨ho, retryable_reg (mapped_known _ lease_entries.2.1),
    ho ▸ (handler_transparent "WrapErrorKV" key).2.1 _ lease_entries.2.1⟩

/-- REGRESSION WITNESS (a handler that answers a sub-second ttl itself, with a twirp error that only QUOTES the
sentinel's text after the argument name): the caller gets an unmapped twirp error — not ErrKVLeaseInvalidTTL, `Is` no
sentinel — although the node, asked directly, answers exactly ErrKVLeaseInvalidTTL. -/
theorem own_answer_loses_identity (code : String) (kv : Option String) :
    mapper mapped ⟨code, "ttl " ++ invalidTTL.msg, kv⟩ ≠ .reg invalidTTL ∧
    (∀ e, (mapper mapped ⟨code, "ttl " ++ invalidTTL.msg, kv⟩).is e = false) := by
  have hm : ("ttl " ++ invalidTTL.msg) ∉ mapped.map Entry.msg := by decide +kernel
  rw [mapper_unknown mapped (Wire.mk code _ kv) hm]
  exact ⟨nofun, fun _ => rfl⟩

/-! ## non-vacuity (robust to additions to the registry) -/

-- lease requests: refused ttls exist on both sides of zero, accepted ones too; every outcome occurs
example : ttlOk 0 = false ∧ ttlOk 500000000 = false ∧ ttlOk 999999999 = false ∧ ttlOk (-5000000000) = false ∧
    ttlOk 1000000000 = true ∧ ttlOk 1500000000 = true := by decide +kernel
example : leaseOutcome known .acquire 500000000 .free = some (.reg invalidTTL) ∧
    leaseOutcome known .acquire 60000000000 .heldOther = some (.reg leaseConflict) ∧
    leaseOutcome known .renew 60000000000 .lapsed = some (.reg leaseExpired) ∧
    leaseOutcome known .release 0 .heldOther = some (.reg leaseExpired) ∧
    leaseOutcome known .renew 60000000000 .heldMine = none := by
  -- the ttl test and the lease state are evaluated, the errors by name are those `lease_entries` found
  obtain ⟨h1, _, h2, _, h3, _⟩ := lease_entries
  exact ⟨h1 ▸ rfl, h2 ▸ rfl, h3 ▸ rfl, h3 ▸ rfl, rfl⟩
example : ∃ h ∈ Gen.C14.handlerReturns, h.1 = "Renew" ∧ h.2 = [("WrapErrorKV", "r.LocalNode", "Renew")] := by decide +kernel

example : ∃ e ∈ registry, e.retryable = true := by decide +kernel
example : ∃ e ∈ registry, e.retryable = false := by decide +kernel
example : "boom" ∉ mapped.map Entry.msg := by decide +kernel
example : ∃ e, e ∈ mapped ∧ retryable known (.reg e) = true ∧ acrossRPC known mapped "WrapErrorKV" "some/key" (.reg e) = .reg e :=
  ⟨deadlineEntry, deadline_mapped, deadline_retryable, identity_preserved _ _ _ deadline_mapped⟩

-- a KV handler and a 40-byte key: a retryable mapped error still arrives as itself, the key in the meta entry only
example : ∃ key : String, key.length = 40 ∧ ∃ e ∈ mapped, e.retryable = true ∧
    acrossRPC known mapped "WrapErrorKV" key (.reg e) = .reg e ∧
    (wrapErr known "WrapErrorKV" key (.reg e)).kv = some key :=
  -- the literal is `String.ofList` of its 40 characters: nothing is UTF-8 encoded to count them
  ⟨"tunnel/hostname/0123456789abcdef0123456/", String.length_ofList, deadlineEntry, deadline_mapped, rfl,
    identity_preserved _ _ _ deadline_mapped, (wire_kv known _ _).1⟩
-- a mapped retryable message cut short is not a mapped message (hypotheses of message_must_arrive_verbatim)
example : ∃ e ∈ mapped, e.retryable = true ∧ "chord/kv: processing node no longer has ownership over r" ∉ mapped.map Entry.msg :=
  ⟨deadlineEntry, deadline_mapped, rfl, by decide +kernel⟩
example : ∃ h ∈ Gen.C14.handlerKeys, h.1 = "Acquire" := by decide +kernel

-- a retryable and a non-retryable mapped error inside a two-level text-preserving wrapper
example : ∃ e ∈ mapped, e.retryable = true ∧ (sameText e 2).is e = true ∧ (sameText e 2).msg = e.msg ∧ sameText e 2 ≠ .reg e :=
  ⟨deadlineEntry, deadline_mapped, rfl, sameText_is _ 2, sameText_msg _ 2, nofun⟩
example : ∃ e ∈ mapped, e.retryable = false ∧ retryable known (sameText e 1) = false :=
  ⟨invalidTTL, lease_entries.2.1, rfl, (sameText_preserved "WrapError" "" _ lease_entries.2.1 1).2.1⟩
example : ∃ x : GoErr, retryable known x = true ∧ ∀ e, x ≠ .reg e :=
  ⟨sameText deadlineEntry 1, (sameText_preserved "raw" "" _ deadline_mapped 1).2.1, fun _ => nofun⟩

end Specter.C14
