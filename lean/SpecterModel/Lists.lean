/-!
List facts that several properties use and core does not have.
-/
namespace Specter

/-- what the loops that keep first occurrences (`if a ∈ acc then acc else acc ++ [a]`) rest on -/
theorem nodup_snoc {α : Type} {l : List α} {a : α} (h : l.Nodup) (m : a ∉ l) : (l ++ [a]).Nodup :=
  (List.perm_append_singleton a l).nodup_iff.mpr (List.nodup_cons.mpr ⟨m, h⟩)

/-- a fold that puts the elements with `p` in front, latest first, and appends the others -/
theorem foldl_front_back {α} (p : α → Bool) (xs acc : List α) :
    xs.foldl (fun acc x => if p x then x :: acc else acc ++ [x]) acc
      = (xs.filter p).reverse ++ acc ++ xs.filter (fun x => !p x) := by
  induction xs generalizing acc with
  | nil => simp
  | cons x xs ih =>
    rw [List.foldl_cons, ih]
    cases h : p x <;> simp [h]

end Specter
