import SpecterModel.C29.Model
/-!
# C29 — A custom hostname is bound to one client, only after DNS proof

Theorems over the model of `AcmeValidate` / `checkAcme` / `ReleaseTunnel` (Model.lean), for all
configurations, KV states, requests and operation histories. Tie: harness/cmd/c29 runs the real RPC
handlers on an in-memory KV in random histories and compares every result, the name handed to the
resolver, the number of KV reads and the stored binding with the model.
-/
namespace Specter.C29

/-! ### `strings.Contains` -/

theorem hasInfix_iff (p s : List Char) : hasInfix p s = true ↔ ∃ a b, s = a ++ p ++ b := by
  simp only [eq_comm (a := s)]
  change _ ↔ p <:+: s
  induction s with
  | nil => simp [hasInfix]
  | cons c cs ih => simp [hasInfix, ih, List.infix_cons_iff]

theorem contains_of_suffix (pre zone : String) : contains (pre ++ zone) zone = true := by
  unfold contains
  rw [hasInfix_iff]
  exact ⟨pre.toList, [], by simp [String.toList_append]⟩

/-! ### single requests -/

theorem save_res (st : State) (h : String) (r : Req) (a : Option String) :
    ((save st h r a).2.res = .ok → (save st h r a).1 = bind st h r.caller)
      ∧ ((save st h r a).2.res ≠ .ok → (save st h r a).1 = st) := by
  fun_cases save st h r a <;> simp

theorem checkAcme_found_iff {cfg : Cfg} {st : State} {caller : Client} {h : String} {p g : Bool} :
    checkAcme cfg st caller h p g = .found ↔
      (p = true ∧ contains h cfg.acme = false ∧ contains h cfg.apex = false ∧ 2 ≤ dots h ∧ g = false)
        ∧ st.bound h = some caller := by
  unfold checkAcme
  grind

theorem checkAcme_notFound_iff {cfg : Cfg} {st : State} {caller : Client} {h : String} {p g : Bool} :
    checkAcme cfg st caller h p g = .notFound ↔
      (p = true ∧ contains h cfg.acme = false ∧ contains h cfg.apex = false ∧ 2 ≤ dots h ∧ g = false)
        ∧ st.bound h = none := by
  unfold checkAcme
  grind

/-- a request only ever changes the binding of its own (normalised) hostname, and only to the caller,
and only when it is answered `ok` -/
theorem validate_frame (cfg : Cfg) (st : State) (r : Req) (x : String) :
    (validate cfg st r).1.bound x = st.bound x
      ∨ (r.norm = some x ∧ (validate cfg st r).1.bound x = some r.caller ∧ (validate cfg st r).2.res = .ok) := by
  have key : ∀ h a, r.norm = some h → (save st h r a).1.bound x = st.bound x ∨
      (r.norm = some x ∧ (save st h r a).1.bound x = some r.caller ∧ (save st h r a).2.res = .ok) := by
    intro h a hn
    fun_cases save st h r a
    · exact .inl rfl
    · by_cases hx : x = h
      · exact .inr ⟨hx ▸ hn, by simp [bind, hx], rfl⟩
      · exact .inl (by simp [bind, hx])
  fun_cases validate cfg st r
  case case3 h hn _ => exact key h _ hn            -- already bound to the caller
  case case6 h hn _ _ _ _ => exact key h _ hn      -- CNAME equals the target
  all_goals exact .inl rfl                         -- refusals return `st`

/-- **bind requires proof**: a validation that succeeds for a hostname not already bound to the caller
saw the challenge CNAME equal to the caller's token-specific target (and a valid proof of work, an
acceptable hostname, and no binding by anybody else). -/
theorem bind_requires_proof (cfg : Cfg) (st : State) (r : Req) (h : String)
    (hn : r.norm = some h) (hok : (validate cfg st r).2.res = .ok) (hnb : st.bound h ≠ some r.caller) :
    r.cname = some r.target ∧ r.powOk = true ∧ st.bound h = none
      ∧ contains h cfg.acme = false ∧ contains h cfg.apex = false ∧ 2 ≤ dots h := by
  revert hok
  fun_cases validate cfg st r
  case case3 h' hn' e =>                 -- already bound to the caller
    cases hn.symm.trans hn'
    exact fun _ => absurd (checkAcme_found_iff.mp e).2 hnb
  case case6 h' hn' e a hcn hat =>       -- CNAME equals the target
    cases hn.symm.trans hn'
    obtain ⟨⟨hp, ha, hx, hd, -⟩, hb⟩ := checkAcme_notFound_iff.mp e
    exact fun _ => ⟨by rw [hcn, Decidable.not_not.mp hat], hp, hb, ha, hx, hd⟩
  all_goals rintro ⟨⟩

/-- **another client is refused**: while a hostname is bound to `c`, a validation by anybody else fails
and leaves the whole KV state untouched. -/
theorem other_client_refused (cfg : Cfg) (st : State) (r : Req) (h : String) (c : Client)
    (hn : r.norm = some h) (hb : st.bound h = some c) (hc : c ≠ r.caller) :
    (validate cfg st r).2.res ≠ .ok ∧ (validate cfg st r).1 = st := by
  cases e : checkAcme cfg st r.caller h r.powOk r.kvGetFail with
  | refused c' n => simp [validate, hn, e]
  | found => rw [(checkAcme_found_iff.mp e).2] at hb; exact absurd (Option.some.inj hb).symm hc
  | notFound => rw [(checkAcme_notFound_iff.mp e).2] at hb; cases hb

/-- **apex / acme / bare refused**: hostnames containing the apex or the ACME zone, or with fewer than
two dots, are refused whatever else the request carries; nothing is stored. -/
theorem apex_acme_bare_refused (cfg : Cfg) (st : State) (r : Req) (h : String) (hn : r.norm = some h)
    (hbad : contains h cfg.apex = true ∨ contains h cfg.acme = true ∨ dots h < 2) :
    (validate cfg st r).2.res ≠ .ok ∧ (validate cfg st r).1 = st
      ∧ (instruction cfg st r).1 ≠ .ok := by
  have hguard : ¬ (r.powOk = true ∧ contains h cfg.acme = false ∧ contains h cfg.apex = false ∧ 2 ≤ dots h
      ∧ r.kvGetFail = false) := by
    rintro ⟨-, ha, hx, hd, -⟩
    simp [ha, hx] at hbad
    omega
  cases e : checkAcme cfg st r.caller h r.powOk r.kvGetFail with
  | refused c n => simp [validate, instruction, hn, e]
  | found => exact absurd (checkAcme_found_iff.mp e).1 hguard
  | notFound => exact absurd (checkAcme_notFound_iff.mp e).1 hguard

/-- in the property's wording: the apex, the ACME zone and all their subdomains are refused -/
theorem zone_and_subdomains_refused (cfg : Cfg) (st : State) (r : Req) (pre : String)
    (hn : r.norm = some (pre ++ cfg.apex) ∨ r.norm = some (pre ++ cfg.acme)) :
    (validate cfg st r).2.res ≠ .ok ∧ (validate cfg st r).1 = st := by
  rcases hn with hn | hn
  · exact (apex_acme_bare_refused cfg st r _ hn (.inl (contains_of_suffix pre cfg.apex))).imp id And.left
  · exact (apex_acme_bare_refused cfg st r _ hn (.inr (.inl (contains_of_suffix pre cfg.acme)))).imp id And.left

/-- **proof of work required**: without a valid proof the request is refused before the KV is read or
the resolver asked, and nothing is stored. -/
theorem pow_required (cfg : Cfg) (st : State) (r : Req) (h : String) (hn : r.norm = some h)
    (hp : r.powOk = false) :
    validate cfg st r = (st, ⟨.refused .invPow, none, 0⟩) ∧ (instruction cfg st r).1 = .refused .invPow := by
  unfold validate instruction checkAcme; simp [hn, hp]

/-- **normalise first**: a hostname rejected by `acme.Normalize` is refused without any further step -/
theorem normalize_first (cfg : Cfg) (st : State) (r : Req) (hn : r.norm = none) :
    validate cfg st r = (st, ⟨.refused .invHost, none, 0⟩) ∧ instruction cfg st r = (.refused .invHost, none) := by
  unfold validate instruction; simp [hn]

/-- validation by the owner again keeps the binding (idempotent, no DNS needed) -/
theorem owner_revalidates (cfg : Cfg) (st : State) (r : Req) (h : String) (hn : r.norm = some h)
    (hb : st.bound h = some r.caller) (x : String) :
    (validate cfg st r).1.bound x = st.bound x := by
  rcases validate_frame cfg st r x with e | ⟨e1, e2, -⟩
  · exact e
  · cases hn.symm.trans e1; rw [e2, hb]

/-! ### histories -/

theorem step_frame (cfg : Cfg) (st : State) (op : Op) (x : String) :
    (step cfg st op).bound x = st.bound x
      ∨ (∃ r, op = .validate r ∧ r.norm = some x ∧ (step cfg st op).bound x = some r.caller
          ∧ (validate cfg st r).2.res = .ok)
      ∨ (∃ caller, op = .release caller x ∧ st.lists caller.token x = true ∧ (step cfg st op).bound x = none) := by
  cases op with
  | instruction r => exact .inl rfl
  | validate r => exact (validate_frame cfg st r x).imp id fun h => .inl ⟨r, rfl, h⟩
  | release caller host =>
    simp only [step]
    fun_cases release st caller host
    case case1 hl =>
      by_cases hx : x = host
      · subst hx; exact .inr (.inr ⟨caller, rfl, hl, if_pos rfl⟩)
      · exact .inl (if_neg hx)
    case case2 => exact .inl rfl

/-- while `x` is bound, one operation keeps the binding or releases it (a holder of a token whose list
contains `x`); a validation by anybody but the owner fails (`other_client_refused`) -/
theorem step_binding (cfg : Cfg) (st : State) (op : Op) (x : String) (c : Client)
    (hb : st.bound x = some c) :
    (step cfg st op).bound x = some c
      ∨ (∃ caller, op = .release caller x ∧ st.lists caller.token x = true ∧ (step cfg st op).bound x = none) := by
  rcases step_frame cfg st op x with e | ⟨r, -, hn, e, hok⟩ | h
  · exact .inl (by rw [e, hb])
  · by_cases hc : c = r.caller
    · exact .inl (by rw [e, hc])
    · exact absurd hok (other_client_refused cfg st r x c hn hb hc).1
  · exact .inr h

def isReleaseOf (x : String) : Op → Bool
  | .release _ h => h == x
  | _ => false

/-- **never rebinds**: once `x` is bound to `c`, no history of validations and instructions by any
clients (and releases of other hostnames) with any proofs, CNAME answers and KV failures changes that. -/
theorem never_rebinds (cfg : Cfg) (ops : List Op) (st : State) (x : String) (c : Client)
    (hb : st.bound x = some c) (hno : ∀ op ∈ ops, isReleaseOf x op = false) :
    (run cfg st ops).bound x = some c := by
  refine List.foldlRecOn (motive := fun s => s.bound x = some c) ops (step cfg) hb fun s hs op ho => ?_
  rcases step_binding cfg s op x c hs with e | ⟨caller, e, -, -⟩
  · exact e
  · have := hno op ho; simp [e, isReleaseOf] at this

/-- one operation on a bound `x`, releases included, leaves the binding `some c` or `none`
(`step_binding` also says which operation removes it) -/
theorem first_change_is_release (cfg : Cfg) (st : State) (op : Op) (x : String) (c : Client)
    (hb : st.bound x = some c) : (step cfg st op).bound x = some c ∨ (step cfg st op).bound x = none :=
  (step_binding cfg st op x c hb).imp id fun ⟨_, _, _, e⟩ => e

theorem release_requires_listed (st : State) (caller : Client) (h : String)
    (hl : st.lists caller.token h = false) : release st caller h = (st, .refused .denied) := by
  unfold release; simp [hl]

/-! ### hostnames as DNS names: one owner per name, whatever the spelling

The property speaks about *hostnames*, and a hostname is a DNS name: `Shop.customer.org` and
`shop.customer.org` are the same one. The code compares bytes everywhere (KV key of the binding,
`strings.Contains` for the zones), so the statements above are statements about spellings. They become
statements about DNS names through the one fact the code relies on: `acme.Normalize` hands on the
canonical (lower-case) spelling only (for C33's model of it: `C33.normalize_charset`). That fact is the
hypothesis `OpCanonical` below (checked by the driver on every harness line: a normalised hostname with
`fold h ≠ h` is reported). -/

theorem toLower_idem (c : Char) : c.toLower.toLower = c.toLower := by
  simp only [Char.toLower]
  split
  · split
    · next h1 h2 =>
      simp only [ge_iff_le, UInt32.le_iff_toNat_le, UInt32.toNat_add, seval] at h1 h2
      omega
    · rfl
  · simp [*]

/-- every DNS name has a canonical spelling: `fold x` is canonical and names the same DNS name as `x` -/
theorem fold_canonical (x : String) : canonical (fold x) = true ∧ sameName (fold x) x = true := by
  have h : fold (fold x) = fold x := by
    simp only [fold, String.toList_ofList, List.map_map, Function.comp_def, toLower_idem]
  simp [canonical, sameName, h]

/-- ... and only one: two canonical spellings of one DNS name are the same string -/
theorem canonical_unique (x y : String) (hx : canonical x = true) (hy : canonical y = true)
    (h : sameName x y = true) : x = y := by
  simp only [canonical, sameName, beq_iff_eq] at hx hy h
  rw [← hx, ← hy, h]

/-- every key that carries a binding is the canonical spelling of its DNS name -/
def KeysCanonical (st : State) : Prop := ∀ x c, st.bound x = some c → canonical x = true

/-- the postcondition of `acme.Normalize` the code relies on: what it returns is canonical -/
def OpCanonical : Op → Prop
  | .validate r => ∀ h, r.norm = some h → canonical h = true
  | _ => True

theorem init_keysCanonical : KeysCanonical State.init := by
  intro x c h; simp [State.init] at h

theorem step_keysCanonical (cfg : Cfg) (st : State) (op : Op) (hk : KeysCanonical st)
    (ho : OpCanonical op) : KeysCanonical (step cfg st op) := by
  intro x c hb
  rcases step_frame cfg st op x with e | ⟨r, rfl, hn, -, -⟩ | ⟨_, _, _, e⟩
  · exact hk x c (e ▸ hb)
  · exact ho x hn
  · rw [e] at hb; cases hb

theorem run_keysCanonical (cfg : Cfg) (ops : List Op) (st : State) (hk : KeysCanonical st)
    (ho : ∀ op ∈ ops, OpCanonical op) : KeysCanonical (run cfg st ops) :=
  List.foldlRecOn ops (step cfg) hk fun s hs op hop => step_keysCanonical cfg s op hs (ho op hop)

/-- **one owner per DNS name**: after any history (validations, instructions, releases by anybody, any
proofs / CNAME answers / KV failures) two bound spellings of one DNS name are the same key, hence have
the same single owner. -/
theorem dns_name_single_owner (cfg : Cfg) (ops : List Op) (st : State) (hk : KeysCanonical st)
    (ho : ∀ op ∈ ops, OpCanonical op) (x y : String) (a b : Client) (hxy : sameName x y = true)
    (hx : (run cfg st ops).bound x = some a) (hy : (run cfg st ops).bound y = some b) : x = y ∧ a = b := by
  have hk' := run_keysCanonical cfg ops st hk ho
  have e := canonical_unique x y (hk' x a hx) (hk' y b hy) hxy
  subst e
  rw [hx] at hy
  exact ⟨rfl, by injection hy⟩

/-- **another client is refused under every spelling**: while the DNS name is bound to `c` (under key `x`),
a validation by anybody else of any spelling `h` of that name fails and changes nothing. -/
theorem other_client_refused_any_spelling (cfg : Cfg) (st : State) (r : Req) (h x : String) (c : Client)
    (hk : KeysCanonical st) (hn : r.norm = some h) (hcan : canonical h = true)
    (hb : st.bound x = some c) (hs : sameName h x = true) (hc : c ≠ r.caller) :
    (validate cfg st r).2.res ≠ .ok ∧ (validate cfg st r).1 = st := by
  have e := canonical_unique h x hcan (hk x c hb) hs
  subst e
  exact other_client_refused cfg st r h c hn hb hc

/-- **never rebinds, under any spelling**: once the DNS name of `x` is bound to `c`, no history without a
release of `x` ever binds any spelling `y` of that name to anybody but `c`. -/
theorem never_rebinds_any_spelling (cfg : Cfg) (ops : List Op) (st : State) (x : String) (c : Client)
    (hk : KeysCanonical st) (ho : ∀ op ∈ ops, OpCanonical op)
    (hb : st.bound x = some c) (hno : ∀ op ∈ ops, isReleaseOf x op = false)
    (y : String) (c' : Client) (hs : sameName y x = true) (hy : (run cfg st ops).bound y = some c') :
    c' = c := by
  have hx := never_rebinds cfg ops st x c hb hno
  exact (dns_name_single_owner cfg ops st hk ho y x c' c hs hy hx).2

/-- **apex / ACME zone refused under every spelling**: when the DNS name (folded) is the zone or lies
under it, the request is refused and nothing is stored. -/
theorem zone_refused_any_spelling (cfg : Cfg) (st : State) (r : Req) (h pre : String)
    (hn : r.norm = some h) (hcan : canonical h = true)
    (hz : fold h = pre ++ cfg.apex ∨ fold h = pre ++ cfg.acme) :
    (validate cfg st r).2.res ≠ .ok ∧ (validate cfg st r).1 = st := by
  have e : fold h = h := by simpa [canonical] using hcan
  rw [e] at hz
  exact zone_and_subdomains_refused cfg st r pre (by rcases hz with hz | hz <;> simp [hn, hz])

/-! ### non-vacuity -/

def cfgEx : Cfg := ⟨"hello.com", "acme.example.com"⟩
def alice : Client := ⟨1, "A"⟩
def bob : Client := ⟨2, "B"⟩
def reqEx (c : Client) (h : String) (cname : Option String) : Req := ⟨c, some h, true, cname, "t" ++ c.token, false, false⟩

example : (validate cfgEx State.init (reqEx alice "app.customer.org" (some "tA"))).2.res = .ok := by decide +kernel
example : (validate cfgEx State.init (reqEx alice "app.customer.org" (some "tB"))).2.res = .refused .failedPre := by decide +kernel
example : (validate cfgEx State.init (reqEx alice "x.hello.com" (some "tA"))).2.res = .refused .invHost := by decide +kernel
example : (validate cfgEx State.init (reqEx alice "customer.org" (some "tA"))).2.res = .refused .invHost := by decide +kernel
example :
    let st := (validate cfgEx State.init (reqEx alice "app.customer.org" (some "tA"))).1
    st.bound "app.customer.org" = some alice
      ∧ (validate cfgEx st (reqEx bob "app.customer.org" (some "tB"))).2.res = .refused .invHost
      ∧ (validate cfgEx st (reqEx alice "app.customer.org" none)).2.res = .ok
      ∧ (release st bob "app.customer.org").2 = .refused .denied
      ∧ ((release st alice "app.customer.org").1.bound "app.customer.org") = none := by decide +kernel

/-! spellings: the kernel reads a string literal as `String.ofList` of its characters at no cost, whereas
`String.toList` and `==` on strings decode and encode UTF-8; so these are evaluated on character lists -/

private theorem fold_ofList (l : List Char) : fold (.ofList l) = .ofList (l.map Char.toLower) := by
  simp [fold]

private theorem ofList_beq (a b : List Char) : (String.ofList a == String.ofList b) = (a == b) := by
  rw [Bool.eq_iff_iff]; simp [String.ofList_inj]

private theorem canonical_ofList (l : List Char) : canonical (.ofList l) = (l.map Char.toLower == l) := by
  rw [canonical, fold_ofList, ofList_beq]

private theorem sameName_ofList (a b : List Char) :
    sameName (.ofList a) (.ofList b) = (a.map Char.toLower == b.map Char.toLower) := by
  rw [sameName, fold_ofList, fold_ofList, ofList_beq]

example : fold "Shop.Customer.ORG" = "shop.customer.org" ∧ canonical "shop.customer.org" = true
    ∧ canonical "Shop.customer.org" = false ∧ sameName "SHOP.customer.org" "shop.Customer.org" = true
    ∧ sameName "shop.customer.org" "shop.customer.net" = false := by
  rw [fold_ofList, String.ofList_inj, canonical_ofList, canonical_ofList, sameName_ofList, sameName_ofList]
  decide +kernel
example : OpCanonical (.validate (reqEx alice "app.customer.org" (some "tA"))) := by
  intro h e; cases e; rw [canonical_ofList]; decide +kernel
/-- the hypothesis is needed: the model (like the code) is byte-exact, so if `Normalize` ever handed on
a non-canonical spelling, one DNS name would get two owners -/
example :
    let st := (validate cfgEx State.init (reqEx alice "shop.customer.org" (some "tA"))).1
    let st' := (validate cfgEx st (reqEx bob "Shop.customer.org" (some "tB"))).1
    st'.bound "shop.customer.org" = some alice ∧ st'.bound "Shop.customer.org" = some bob
      ∧ (validate cfgEx State.init (reqEx bob "x.y.HELLO.com" (some "tB"))).2.res = .ok := by decide +kernel
/-- with canonical spellings the second client is refused and the zone is recognised -/
example :
    let st := (validate cfgEx State.init (reqEx alice "shop.customer.org" (some "tA"))).1
    (validate cfgEx st (reqEx bob (fold "Shop.customer.org") (some "tB"))).2.res = .refused .invHost
      ∧ (validate cfgEx State.init (reqEx bob (fold "x.y.HELLO.com") (some "tB"))).2.res = .refused .invHost := by decide +kernel

end Specter.C29
