import SpecterModel.C09.Props
/-!
# C01 — Lookups on a stable ring return the node responsible for the key

`Stable net`: every live member knows its true predecessor and true successor and every
non-nil finger names a live member (fingers need not be exact — the proof shows they only
have to be members). Then a lookup from ANY member for ANY identifier returns the first
member at or clockwise after the identifier, for every ring size and id layout
(adjacent ids, 0, 2^48-1, wrap-around, keys equal to member ids). `lookup_owner_or_stale` is the same
statement for fingers that may also be stale. `Stable.pred_first` / `Stable.succ_first` read the pointer clauses as
order statements about `cw`; `Stable.insert`: a stable ring with one more member, placed inside a gap, is stable.
-/
namespace Specter.C01
open Specter.Ring Specter.C09

/-- live member: present and answering lookups -/
def Mem (net : Net) (n : Nat) : Prop := ∃ nd, net.get n = some nd ∧ checkNodeState nd false = none

/-- `o` is the first member at or clockwise after `key` -/
def IsOwner (net : Net) (key o : Nat) : Prop :=
  Mem net o ∧ ∀ m, Mem net m → dist key o ≤ dist key m

structure Stable (net : Net) : Prop where
  lt : ∀ n, Mem net n → n < M
  pred : ∀ n nd, net.get n = some nd → checkNodeState nd false = none →
      ∃ p, nd.pred = some p ∧ Mem net p ∧
        ∀ m, Mem net m → ¬ (0 < dist p m ∧ dist p m < dist p n) ∧ (p = n → m = n)
  succ : ∀ n nd, net.get n = some nd → checkNodeState nd false = none →
      ∃ s, nd.succs.head? = some s ∧ Mem net s ∧
        ∀ m, Mem net m → ¬ (0 < dist n m ∧ dist n m < dist n s) ∧ (s = n → m = n)
  fingers : ∀ n nd, net.get n = some nd → checkNodeState nd false = none →
      ∀ f, some f ∈ nd.fingers → Mem net f

/-! ### members and owners -/

theorem live_of_mem {net : Net} {n : Nat} {nd : Node} (hm : Mem net n) (hg : net.get n = some nd) :
    checkNodeState nd false = none := by
  obtain ⟨x, hx, hc⟩ := hm
  rw [hg] at hx; injection hx with hx; subst hx; exact hc

theorem not_mem_of_inactive {net : Net} {j : Nat} {nd : Node} (hg : net.get j = some nd)
    (hin : nd.state = .inactive) : ¬ Mem net j := by
  intro hm
  have hc := live_of_mem hm hg
  cases hcr : nd.crashed <;> simp [checkNodeState, hcr, hin] at hc

theorem mem_iff_live (net : Net) (m : Nat) : Mem net m ↔ (net.get m).map (checkNodeState · false) = some none := by
  unfold Mem
  cases net.get m <;> simp

theorem isOwner_congr {a b : Net} (hm : ∀ m, Mem b m ↔ Mem a m) (h o : Nat) : IsOwner b h o ↔ IsOwner a h o := by
  unfold IsOwner
  constructor
  · rintro ⟨h1, h2⟩; exact ⟨(hm o).mp h1, fun m hm' => h2 m ((hm m).mpr hm')⟩
  · rintro ⟨h1, h2⟩; exact ⟨(hm o).mpr h1, fun m hm' => h2 m ((hm m).mp hm')⟩

theorem isOwner_of_dist_lt {net : Net} (hlt : ∀ n, Mem net n → n < M) {h j o : Nat} (hh : h < M) (hj : j < M)
    (ho : IsOwner net h o) (hjo : dist h j < dist h o) : IsOwner net j o := by
  refine ⟨ho.1, fun m hm => ?_⟩
  have hjm := Nat.le_trans (Nat.le_of_lt hjo) (ho.2 m hm)
  apply Nat.le_of_add_le_add_left (a := dist h j)
  rw [dist_add h j o hh hj (hlt o ho.1) (Nat.le_of_lt hjo), dist_add h j m hh hj (hlt m hm) hjm]
  exact ho.2 m hm

/-- the predecessor pointer of a live node `n` of a stable ring names a member, and `n` is the first member after it -/
theorem Stable.pred_first {net : Net} (hs : Stable net) {n p : Nat} {nd : Node} (hg : net.get n = some nd)
    (hc : checkNodeState nd false = none) (hp : nd.pred = some p) :
    Mem net p ∧ ∀ m, Mem net m → cw n p ≤ cw m p := by
  obtain ⟨p', hp', hpm, hmin⟩ := hs.pred n nd hg hc
  obtain rfl : p' = p := Option.some.inj (hp'.symm.trans hp)
  exact ⟨hpm, fun m hm => (gap_iff_cw p' n m (hs.lt p' hpm) (hs.lt n ⟨nd, hg, hc⟩) (hs.lt m hm)).mp (hmin m hm)⟩

/-- the first successor of a live node `n` of a stable ring is the first member after `n` -/
theorem Stable.succ_first {net : Net} (hs : Stable net) {n s : Nat} {nd : Node} (hg : net.get n = some nd)
    (hc : checkNodeState nd false = none) (hsu : nd.succs.head? = some s) :
    Mem net s ∧ ∀ m, Mem net m → cw s n ≤ cw m n := by
  obtain ⟨s', hs', hsm, hmin⟩ := hs.succ n nd hg hc
  obtain rfl : s' = s := Option.some.inj (hs'.symm.trans hsu)
  exact ⟨hsm, fun m hm => (gap_iff_cw' n s' m (hs.lt n ⟨nd, hg, hc⟩) (hs.lt s' hsm) (hs.lt m hm)).mp (hmin m hm)⟩

/-! ### `Stable` through a view -/

/-- what `Mem` and the pointer clauses of `Stable` read of a node -/
def ptrView (x : Node) : Bool × Option Nat × Option Nat :=
  ((checkNodeState x false).isNone, x.pred, x.succs.head?)

theorem live_of_ptrView (x y : Node) (h : ptrView x = ptrView y) (hc : checkNodeState x false = none) :
    checkNodeState y false = none := by
  have : (checkNodeState x false).isNone = (checkNodeState y false).isNone := congrArg (·.1) h
  rw [hc] at this
  exact Option.isNone_iff_eq_none.mp this.symm

theorem mem_of_view (a b : Net) (h : ∀ m, (b.get m).map ptrView = (a.get m).map ptrView) (m : Nat) :
    Mem b m ↔ Mem a m := by
  constructor
  · rintro ⟨x, hx, hc⟩
    obtain ⟨y, hy, e⟩ := view_some ptrView a b h m x hx
    exact ⟨y, hy, live_of_ptrView x y e hc⟩
  · rintro ⟨x, hx, hc⟩
    obtain ⟨y, hy, e⟩ := view_some ptrView b a (fun m => (h m).symm) m x hx
    exact ⟨y, hy, live_of_ptrView x y e hc⟩

theorem stable_of_view (a b : Net) (h : ∀ m, (b.get m).map ptrView = (a.get m).map ptrView)
    (hf : ∀ m x, b.get m = some x → checkNodeState x false = none → ∀ f, some f ∈ x.fingers → Mem a f)
    (hs : Stable a) : Stable b := by
  have memeq := mem_of_view a b h
  constructor
  · intro m hm; exact hs.lt m ((memeq m).mp hm)
  · intro m x hx hcx
    obtain ⟨y, hy, e⟩ := view_some ptrView a b h m x hx
    obtain ⟨p, hp, hpm, hmin⟩ := hs.pred m y hy (live_of_ptrView x y e hcx)
    have e2 : x.pred = y.pred := congrArg (·.2.1) e
    exact ⟨p, by rw [e2]; exact hp, (memeq p).mpr hpm, fun q hq' => hmin q ((memeq q).mp hq')⟩
  · intro m x hx hcx
    obtain ⟨y, hy, e⟩ := view_some ptrView a b h m x hx
    obtain ⟨s, hsu, hsm, hmin⟩ := hs.succ m y hy (live_of_ptrView x y e hcx)
    have e3 : x.succs.head? = y.succs.head? := congrArg (·.2.2) e
    exact ⟨s, by rw [e3]; exact hsu, (memeq s).mpr hsm, fun q hq' => hmin q ((memeq q).mp hq')⟩
  · intro m x hx hcx f hf'
    exact (memeq f).mpr (hf m x hx hcx f hf')

/-- **A stable ring with one member inserted.** `j` lies strictly inside the gap `(prev, s)` of the stable ring `net`;
`net'` has `j` as a further member, pointing back at `prev` and forward at `s`; `prev` and `s` point at `j`; every
other live node has the predecessor and first successor it had in `net`. -/
theorem Stable.insert {net net' : Net} {prev j s : Nat} (hs : Stable net) (hj : j < M)
    (hp : Mem net prev) (hsm : Mem net s) (hfirst : ∀ m, Mem net m → cw s prev ≤ cw m prev)
    (hb : cw j prev < cw s prev)
    (hmem : ∀ m, Mem net' m ↔ (Mem net m ∨ m = j))
    (hJ : ∀ x, net'.get j = some x → x.pred = some prev ∧ x.succs.head? = some s)
    (hO : ∀ n x, net'.get n = some x → checkNodeState x false = none → n ≠ j →
      ∃ y, net.get n = some y ∧ checkNodeState y false = none ∧
        x.pred = (if n = s then some j else y.pred) ∧
        x.succs.head? = (if n = prev then some j else y.succs.head?))
    (hF : ∀ n x, net'.get n = some x → checkNodeState x false = none →
      ∀ f, some f ∈ x.fingers → Mem net f ∨ f = j) : Stable net' := by
  have hpM := hs.lt prev hp; have hsM := hs.lt s hsm
  have old : ∀ {m}, Mem net m → Mem net' m := fun h => (hmem _).mpr (.inl h)
  have hjm : Mem net' j := (hmem j).mpr (.inr rfl)
  have new : ∀ {Q : Nat → Prop}, (∀ m, Mem net m → Q m) → Q j → ∀ m, Mem net' m → Q m :=
    fun ho hj m hm => ((hmem m).mp hm).elim (ho m) (· ▸ hj)
  have hlt : ∀ m, Mem net' m → m < M := new hs.lt hj
  -- the gap `(prev, s)` splits into `(prev, j)` and `(j, s)`
  have gPJ : ∀ m, Mem net' m → cw j prev ≤ cw m prev :=
    new (fun m hm => Nat.le_trans (Nat.le_of_lt hb) (hfirst m hm)) (Nat.le_refl _)
  have gJS : ∀ m, Mem net' m → cw s j ≤ cw m j :=
    new (fun m hm => by
      rw [cw_eq_cw_sub prev j s hpM hj hsM hb,
        cw_eq_cw_sub prev j m hpM hj (hs.lt m hm) (Nat.lt_of_lt_of_le hb (hfirst m hm))]
      exact Nat.sub_le_sub_right (hfirst m hm) _) (cw_self j ▸ cw_le s j)
  -- and `j` lies in no other gap `(a, b)`
  have keep : ∀ a b, Mem net a → Mem net b → b ≠ s → (∀ m, Mem net m → cw b a ≤ cw m a) →
      ∀ m, Mem net' m → cw b a ≤ cw m a := fun a b ha hbm hbs h =>
    new h (gap_keeps j s a b hj hsM (hs.lt a ha) (hs.lt b hbm) hbs (gJS b (old hbm)) (h s hsm))
  refine ⟨hlt, fun n x hx hcx => ?_, fun n x hx hcx => ?_, fun n x hx hcx f hf => (hmem f).mpr (hF n x hx hcx f hf)⟩
  · suffices ∃ p, x.pred = some p ∧ Mem net' p ∧ ∀ m, Mem net' m → cw n p ≤ cw m p by
      obtain ⟨p, h1, h2, h3⟩ := this
      exact ⟨p, h1, h2, fun m hm => (gap_iff_cw p n m (hlt p h2) (hlt n ⟨x, hx, hcx⟩) (hlt m hm)).mpr (h3 m hm)⟩
    by_cases e : n = j
    · subst e; exact ⟨prev, (hJ x hx).1, old hp, gPJ⟩
    · obtain ⟨y, hy, hcy, h1, _⟩ := hO n x hx hcx e
      by_cases es : n = s
      · subst es; exact ⟨j, by simpa using h1, hjm, gJS⟩
      · obtain ⟨p, hp', _⟩ := hs.pred n y hy hcy
        obtain ⟨hpm, h⟩ := hs.pred_first hy hcy hp'
        exact ⟨p, by rw [h1, if_neg es, hp'], old hpm, keep p n hpm ⟨y, hy, hcy⟩ es h⟩
  · suffices ∃ t, x.succs.head? = some t ∧ Mem net' t ∧ ∀ m, Mem net' m → cw t n ≤ cw m n by
      obtain ⟨t, h1, h2, h3⟩ := this
      exact ⟨t, h1, h2, fun m hm => (gap_iff_cw' n t m (hlt n ⟨x, hx, hcx⟩) (hlt t h2) (hlt m hm)).mpr (h3 m hm)⟩
    by_cases e : n = j
    · subst e; exact ⟨s, (hJ x hx).2, old hsm, gJS⟩
    · obtain ⟨y, hy, hcy, _, h2⟩ := hO n x hx hcx e
      by_cases ep : n = prev
      · subst ep; exact ⟨j, by simpa using h2, hjm, gPJ⟩
      · obtain ⟨t, ht, _⟩ := hs.succ n y hy hcy
        obtain ⟨htm, h⟩ := hs.succ_first hy hcy ht
        have hn : Mem net n := ⟨y, hy, hcy⟩
        -- two gaps that end in `s` start at the same member
        have hts : t ≠ s := fun e' =>
          ep (gap_left_unique n prev s (hs.lt n hn) hpM hsM (e' ▸ h prev hp) (hfirst n hn))
        exact ⟨t, by rw [h2, if_neg ep, ht], old htm, keep n t hn htm hts h⟩

end Specter.C01
namespace Specter.C02.Leave
open Specter.Ring Specter.C01

/-- the predecessor / successor clauses of `Stable`: every live member knows its true predecessor and
its true first successor. The name is C02/Leave's: it is the invariant a ring has again after a leave and the next
`stabilize` of the leaver's predecessor, while fingers may still name the leaver. It stands here because it is exactly
what the general lookup theorem below asks of a ring. -/
structure PtrStable (net : Net) : Prop where
  lt : ∀ n, Mem net n → n < M
  pred : ∀ n nd, net.get n = some nd → checkNodeState nd false = none →
      ∃ p, nd.pred = some p ∧ Mem net p ∧
        ∀ m, Mem net m → ¬ (0 < dist p m ∧ dist p m < dist p n) ∧ (p = n → m = n)
  succ : ∀ n nd, net.get n = some nd → checkNodeState nd false = none →
      ∃ s, nd.succs.head? = some s ∧ Mem net s ∧
        ∀ m, Mem net m → ¬ (0 < dist n m ∧ dist n m < dist n s) ∧ (s = n → m = n)

theorem Stable.ptr {net : Net} (h : Stable net) : PtrStable net := ⟨h.lt, h.pred, h.succ⟩

end Specter.C02.Leave
namespace Specter.C01
open Specter.Ring Specter.C09 Specter.C02.Leave

/-- **Lookups with possibly stale fingers.** Of `Stable` only the `lt`, `pred`, `succ` clauses are asked for (`PtrStable`);
fingers are live members or satisfy `F` (stale entries). The lookup returns the owner or, second alternative, answers whatever one step at a stale
finger `g` answers. Each forwarding hop lands strictly inside `(n, key)`, so `cw key ·` decreases: strong induction. -/
theorem lookup_owner_or_stale (net : Net) (F : Nat → Prop)
    (hp : PtrStable net)
    (hfing : ∀ n nd, net.get n = some nd → checkNodeState nd false = none →
      ∀ f, some f ∈ nd.fingers → Mem net f ∨ F f)
    (hFM : ∀ g, F g → g < M)
    (n key : Nat) (hn : Mem net n) (hk : key < M) :
    ∃ fuel, (∃ o, findSucc net fuel n key = .found o ∧ IsOwner net key o) ∨
            (∃ g, F g ∧ findSucc net fuel n key = findSucc net 1 g key) := by
  generalize hd : cw key n = d
  induction d using Nat.strongRecOn generalizing n with
  | ind d ih =>
    subst hd
    have hnM := hp.lt n hn
    obtain ⟨nd, hg, hc⟩ := hn
    obtain ⟨p, hpp, hpm, hpmin⟩ := hp.pred n nd hg hc
    obtain ⟨s, hsu, hsm, hsmin⟩ := hp.succ n nd hg hc
    have hsM := hp.lt s hsm
    by_cases c1 : between p key n true = true
    · exact ⟨1, .inl ⟨n, findSucc_pred net 0 n key nd hg hc (by simp [inPredRange, hpp, c1]), ⟨nd, hg, hc⟩,
        fun m hm => dist_le_of_gap p n key m (hp.lt p hpm) hnM hk (hp.lt m hm) c1 (hpmin m hm).1 (hpmin m hm).2⟩⟩
    · have hpr : inPredRange nd.pred key n = false := by simp [inPredRange, hpp, c1]
      by_cases c2 : between n key s true = true
      · exact ⟨1, .inl ⟨s, findSucc_succ_found net 0 n key s nd hg hc hpr hsu c2, hsm,
          fun m hm => dist_le_of_gap n s key m hnM hsM hk (hp.lt m hm) c2 (hsmin m hm).1
            (fun e => e ▸ (hsmin m hm).2 e.symm)⟩⟩
      · have c2' : between n key s true = false := by simpa using c2
        have hfM : ∀ f, some f ∈ nd.fingers → f < M := fun f hf =>
          (hfing n nd hg hc f hf).elim (hp.lt f) (hFM f)
        obtain ⟨_, hcw⟩ := hop_decreases n key s nd.fingers hnM hk hsM hfM c2'
        rcases hop_mem (P := fun x => Mem net x ∨ F x) n key s nd.fingers (.inl hsm) (hfing n nd hg hc) with
          hcm | hcm
        · obtain ⟨fuel, hres⟩ := ih _ hcw _ hcm rfl
          exact ⟨fuel + 1, by rw [findSucc_hop net fuel n key s nd hg hc hpr hsu c2']; exact hres⟩
        · exact ⟨2, .inr ⟨_, hcm, findSucc_hop net 1 n key s nd hg hc hpr hsu c2'⟩⟩

/-- **C01.** On a stable ring, a lookup from any member for any identifier returns the owner. -/
theorem lookup_correct (net : Net) (hs : Stable net) (n key : Nat) (hn : Mem net n) (hk : key < M) :
    ∃ fuel o, findSucc net fuel n key = .found o ∧ IsOwner net key o := by
  obtain ⟨fuel, ⟨o, h⟩ | ⟨_, hF, _⟩⟩ := lookup_owner_or_stale net (fun _ => False) (Stable.ptr hs)
    (fun n nd hg hc f hf => .inl (hs.fingers n nd hg hc f hf)) (fun _ => False.elim) n key hn hk
  · exact ⟨fuel, o, h⟩
  · exact hF.elim

/-- the owner is unique (ids are distinct points of the ring) -/
theorem owner_unique (net : Net) (hlt : ∀ n, Mem net n → n < M) (key o o' : Nat) (hk : key < M)
    (h : IsOwner net key o) (h' : IsOwner net key o') : o = o' :=
  (dist_eq_iff key o o' hk (hlt o h.1) (hlt o' h'.1)).mp (Nat.le_antisymm (h.2 o' h'.1) (h'.2 o h.1))

/-- whatever fuel the lookup is given beyond the needed amount, the answer is the same owner -/
theorem lookup_correct_any_fuel (net : Net) (hs : Stable net) (n key : Nat) (hn : Mem net n) (hk : key < M) :
    ∃ fuel o, IsOwner net key o ∧ ∀ k, findSucc net (fuel + k) n key = .found o := by
  obtain ⟨fuel, o, hres, ho⟩ := lookup_correct net hs n key hn hk
  exact ⟨fuel, o, ho, fun k => findSucc_fuel_le net fuel (fuel + k) n key _ hres (by simp) (Nat.le_add_right _ _)⟩

theorem owner_exists (net : Net) (hs : Stable net) (n : Nat) (hn : Mem net n) (h : Nat) (hh : h < M) :
    ∃ o nd, IsOwner net h o ∧ net.get o = some nd ∧ checkNodeState nd false = none := by
  obtain ⟨_, o, _, ho⟩ := lookup_correct net hs n h hn hh
  obtain ⟨nd, hg, hc⟩ := ho.1
  exact ⟨o, nd, ho, hg, hc⟩

/-! ### executable `Stable` (used by the driver to gate the lookup oracle) and its soundness -/

def liveB (nd : Node) : Bool := (checkNodeState nd false).isNone

def memB (net : Net) (n : Nat) : Bool := match net.get n with | some nd => liveB nd | none => false

/-- no counted entry `q` of `net` lies strictly between `a` and `b` going clockwise, and if `a = b` every counted entry
is `b` (the ring is the single node). An entry counts if its own node is live and so is `Net.get` of its id, i.e. the
FIRST entry with that id: a `Net` may hold an id twice, and `Mem` reads through `Net.get`. -/
def noneBetweenB (net : Net) (a b : Nat) : Bool :=
  net.all fun q => !liveB q.2 || memB net q.1 == false ||
    (!(decide (0 < dist a q.1) && decide (dist a q.1 < dist a b)) && (a != b || q.1 == b))

def stableB (net : Net) : Bool :=
  net.all fun q =>
    if memB net q.1 then
      match net.get q.1 with
      | none => false
      | some nd =>
        decide (q.1 < M) &&
        (match nd.pred with
          | some p => memB net p && noneBetweenB net p q.1
          | none => false) &&
        (match nd.succs.head? with
          | some s => memB net s && noneBetweenB net q.1 s
          | none => false) &&
        nd.fingers.all (fun f => match f with | some f => memB net f | none => true)
    else true

theorem memB_iff (net : Net) (n : Nat) : memB net n = true ↔ Mem net n := by
  unfold memB Mem liveB
  cases h : net.get n with
  | none => simp
  | some nd => simp [Option.isNone_iff_eq_none]

theorem noneBetween_sound (net : Net) (a b : Nat) (h : noneBetweenB net a b = true) :
    ∀ m, Mem net m → ¬ (0 < dist a m ∧ dist a m < dist a b) ∧ (a = b → m = b) := by
  intro m ⟨nd, hg, hc⟩
  have := List.all_eq_true.mp h _ (get_mem net m nd hg)
  simp [liveB, hc, (memB_iff net m).mpr ⟨nd, hg, hc⟩] at this
  exact ⟨fun ⟨x, y⟩ => by omega, fun e => this.2.elim (absurd e) id⟩

theorem stable_of_stableB (net : Net) (h : stableB net = true) : Stable net := by
  have key : ∀ n nd, net.get n = some nd → checkNodeState nd false = none →
      n < M ∧
      (∃ p, nd.pred = some p ∧ memB net p = true ∧ noneBetweenB net p n = true) ∧
      (∃ s, nd.succs.head? = some s ∧ memB net s = true ∧ noneBetweenB net n s = true) ∧
      (∀ f, some f ∈ nd.fingers → memB net f = true) := by
    intro n nd hg hc
    have := List.all_eq_true.mp h _ (get_mem net n nd hg)
    simp only [(memB_iff net n).mpr ⟨nd, hg, hc⟩, if_true, hg, Bool.and_eq_true, decide_eq_true_eq,
      List.all_eq_true] at this
    obtain ⟨⟨⟨h1, h2⟩, h3⟩, h4⟩ := this
    refine ⟨h1, ?_, ?_, fun f hf => h4 _ hf⟩
    · cases hp : nd.pred with
      | none => simp [hp] at h2
      | some p => exact ⟨p, rfl, by simpa [hp] using h2⟩
    · cases hs : nd.succs.head? with
      | none => simp [hs] at h3
      | some s => exact ⟨s, rfl, by simpa [hs] using h3⟩
  refine ⟨fun n ⟨nd, hg, hc⟩ => (key n nd hg hc).1, fun n nd hg hc => ?_, fun n nd hg hc => ?_,
    fun n nd hg hc f hf => (memB_iff net f).mp ((key n nd hg hc).2.2.2 f hf)⟩
  · obtain ⟨p, hp, hpm, hnb⟩ := (key n nd hg hc).2.1
    exact ⟨p, hp, (memB_iff net p).mp hpm, noneBetween_sound net p n hnb⟩
  · obtain ⟨s, hs, hsm, hnb⟩ := (key n nd hg hc).2.2.1
    exact ⟨s, hs, (memB_iff net s).mp hsm, fun m hm =>
      ⟨(noneBetween_sound net n s hnb m hm).1, fun e => e ▸ (noneBetween_sound net n s hnb m hm).2 e.symm⟩⟩

/-! non-vacuity: a one-node ring (pred = succ = self, full circle) and a three-node ring with
wrap-around ids (0, 5, 2^48-1), one left node still present, fingers only members — both `Stable`. -/

def ring1 : Net := [(7, { state := .active, pred := some 7, succs := [7], fingers := List.replicate 48 (some 7) })]
def ring3 : Net :=
  [(0, { state := .active, pred := some (2^48-1), succs := [5, 2^48-1, 0], fingers := List.replicate 48 (some 5) }),
   (5, { state := .active, pred := some 0, succs := [2^48-1, 0, 5], fingers := List.replicate 48 (some (2^48-1)) }),
   (9, { state := .left, pred := some 5, succs := [2^48-1] }),
   (2^48-1, { state := .active, pred := some 5, succs := [0, 5, 2^48-1], fingers := List.replicate 48 none })]

example : Stable ring1 := stable_of_stableB _ (by decide +kernel)
example : Stable ring3 := stable_of_stableB _ (by decide +kernel)
example : findSucc ring3 4 (2^48-1) 3 = .found 5 := by decide +kernel
example : findSucc ring1 1 7 12345 = .found 7 := by decide +kernel

/-! ### the oracle used by the driver: the member at minimal clockwise distance from the key -/

def liveIds (net : Net) : List Nat := (net.filter (fun q => memB net q.1)).map (·.1)

def argminDist (key : Nat) : Option Nat → List Nat → Option Nat
  | acc, [] => acc
  | none, m :: ms => argminDist key (some m) ms
  | some o, m :: ms => argminDist key (if dist key m < dist key o then some m else some o) ms

def ownerOf (net : Net) (key : Nat) : Option Nat := argminDist key none (liveIds net)

theorem argminDist_spec (key : Nat) : ∀ (ms : List Nat) (acc : Option Nat) (o : Nat),
    argminDist key acc ms = some o →
    o ∈ acc.toList ++ ms ∧ ∀ m ∈ acc.toList ++ ms, dist key o ≤ dist key m := by
  intro ms acc o
  fun_induction argminDist key acc ms
  case case1 => rintro rfl; simp
  case case2 ih => simpa using ih
  -- the nearer of the candidate `a` and the next element `m` is carried on
  case case3 a m ms ih =>
    intro h
    have := ih h
    split at this <;>
      simp only [Option.toList_some, List.cons_append, List.nil_append, List.mem_cons, forall_eq_or_imp] at this ⊢ <;>
      obtain ⟨h1, h2, h3⟩ := this
    · exact ⟨.inr h1, by omega, h2, h3⟩
    · exact ⟨h1.elim .inl (.inr ∘ .inr), h2, by omega, h3⟩

theorem argminDist_none (key : Nat) : ∀ (ms : List Nat) (acc : Option Nat),
    argminDist key acc ms = none → acc = none ∧ ms = [] := by
  intro ms acc
  fun_induction argminDist key acc ms
  case case1 => exact fun h => ⟨h, rfl⟩
  case case2 ih => exact fun h => nomatch (ih h).1
  case case3 ih => exact fun h => absurd (ih h).1 (by split <;> simp)

theorem mem_liveIds (net : Net) (m : Nat) : m ∈ liveIds net ↔ Mem net m := by
  unfold liveIds
  simp only [List.mem_map, List.mem_filter]
  constructor
  · rintro ⟨q, ⟨_, hq⟩, rfl⟩; exact (memB_iff net q.1).mp hq
  · intro hm
    obtain ⟨nd, hg, hc⟩ := hm
    exact ⟨(m, nd), ⟨get_mem net m nd hg, (memB_iff net m).mpr ⟨nd, hg, hc⟩⟩, rfl⟩

/-- the driver's oracle computes the owner of the specification -/
theorem ownerOf_isOwner (net : Net) (key o : Nat) (h : ownerOf net key = some o) : IsOwner net key o := by
  obtain ⟨h1, h2⟩ := argminDist_spec key _ _ _ h
  exact ⟨(mem_liveIds net o).mp h1, fun m hm => h2 m ((mem_liveIds net m).mpr hm)⟩

theorem ownerOf_eq (net : Net) (hlt : ∀ n, Mem net n → n < M) (h o : Nat) (hh : h < M)
    (ho : IsOwner net h o) : ownerOf net h = some o := by
  cases ho' : ownerOf net h with
  | none =>
    have hn' : o ∈ liveIds net := (mem_liveIds net o).mpr ho.1
    rw [(argminDist_none h _ _ ho').2] at hn'
    cases hn'
  | some o' =>
    rw [owner_unique net hlt h o o' hh ho (ownerOf_isOwner net h o' ho')]

/-- **C01, as used by the check**: when the executable stability test passes, every lookup of the
model returns exactly what the oracle computes. -/
theorem lookup_eq_oracle (net : Net) (h : stableB net = true) (n key : Nat) (hn : memB net n = true) (hk : key < M) :
    ∃ fuel o, findSucc net fuel n key = .found o ∧ ownerOf net key = some o := by
  have hs := stable_of_stableB net h
  obtain ⟨fuel, o, hres, ho⟩ := lookup_correct net hs n key ((memB_iff net n).mp hn) hk
  exact ⟨fuel, o, hres, ownerOf_eq net hs.lt key o hk ho⟩

end Specter.C01
