import SpecterModel.C01.Model
import SpecterModel.C11.Props
/-!
Lemmas shared by the ring proofs: ring arithmetic, then what the proofs need of `Net.get` / `Net.upd`,
`checkNodeState`, `notify`, `findSucc`, `hop` and `handOff` so as not to unfold them.

Two distances on the identifiers `< M`: `dist a b = (b + M - a) % M` in `[0, M)`, and `cw b a`, the same distance
from `a` to `b` counted in `(0, M]` (a full turn when `a = b`). Intervals and the "next member" clauses of
`C01.Stable` are order statements about `cw · a` (`between_closed_iff_cw`, `between_open_iff_cw`, `gap_iff_cw`), and
`cw · a` is additive along the ring (`dist_eq_cw_sub`, `cw_eq_cw_sub`): the interval facts follow without case
analysis. `M`, `dist`, `between` are those of C11 (`natBetween`), which ties them to the Go source.
-/
namespace Specter.Ring

/-! ### the clockwise distance `dist` -/

def dist (a b : Nat) : Nat := (b + M - a) % M

theorem dist_cases (a b : Nat) (ha : a < M) (hb : b < M) :
    (a ≤ b ∧ dist a b = b - a) ∨ (b < a ∧ dist a b = b + M - a) :=
  C11.dist_cases a b ha hb

theorem dist_lt (a b : Nat) : dist a b < M := by
  unfold dist; exact Nat.mod_lt _ (by simp [M])

theorem dist_self (a : Nat) : dist a a = 0 := by
  unfold dist; rw [Nat.add_sub_cancel_left, Nat.mod_self]

theorem dist_zero_iff (b x : Nat) (hb : b < M) (hx : x < M) : dist b x = 0 ↔ b = x := by
  have := dist_cases b x hb hx; omega

theorem dist_pos (a b : Nat) (ha : a < M) (hb : b < M) (h : a ≠ b) : 0 < dist a b := by
  have := dist_zero_iff a b ha hb; omega

theorem dist_rebase (b x y : Nat) (hb : b < M) (hx : x < M) (_hy : y < M) :
    (dist b x ≤ dist b y ∧ dist x y = dist b y - dist b x) ∨
    (dist b y < dist b x ∧ dist x y = dist b y + M - dist b x) := by
  -- going from `b` to `x` and on to `y` is going from `b` to `y`, up to one full turn
  have h : (dist b x + dist x y) % M = dist b y := by
    unfold dist
    rw [← Nat.add_mod, show x + M - b + (y + M - x) = y + M - b + M by omega, Nat.add_mod_right]
  have := dist_lt b x; have := dist_lt x y
  by_cases hs : dist b x + dist x y < M
  · rw [Nat.mod_eq_of_lt hs] at h; exact .inl ⟨by omega, by omega⟩
  · rw [Nat.mod_eq_sub_mod (Nat.le_of_not_lt hs), Nat.mod_eq_of_lt (by omega)] at h
    exact .inr ⟨by omega, by omega⟩

theorem dist_add (a b c : Nat) (ha : a < M) (hb : b < M) (hc : c < M) :
    dist a b ≤ dist a c → dist a b + dist b c = dist a c := by
  have := dist_rebase a b c ha hb hc; omega

theorem dist_eq_iff (b x y : Nat) (hb : b < M) (hx : x < M) (hy : y < M) :
    dist b x = dist b y ↔ x = y := by
  refine ⟨fun h => ?_, fun h => h ▸ rfl⟩
  have := dist_rebase b x y hb hx hy
  exact (dist_zero_iff x y hx hy).mp (by omega)

/-! ### intervals: `between l t h false` is `t ∈ (l, h)`, `between l t h true` is `t ∈ (l, h]` -/

theorem between_eq_natBetween : between = C11.natBetween := rfl

theorem between_open_iff (l t h : Nat) (hl : l < M) (ht : t < M) (hh : h < M) :
    between l t h false = true ↔ (0 < dist l t ∧ (dist l t < dist l h ∨ l = h)) :=
  C11.natBetween_open_iff l t h hl ht hh

theorem between_closed_iff (l t h : Nat) (hl : l < M) (ht : t < M) (hh : h < M) :
    between l t h true = true ↔ (0 < dist l t ∧ (dist l t ≤ dist l h ∨ l = h)) ∨ (t = h) := by
  have := dist_eq_iff l t h hl ht hh
  refine (C11.natBetween_closed_iff l t h hl ht hh).trans ?_
  show (0 < dist l t ∧ (dist l t < dist l h ∨ l = h)) ∨ t = h ↔ _
  omega

theorem between_self (a t : Nat) : between a t a true = true :=
  C11.natBetween_self a t

theorem between_open_of_closed (l t h : Nat) (hb : between l t h true = true) (hne : t ≠ h) :
    between l t h false = true := by
  rw [between_eq_natBetween] at hb ⊢
  rw [C11.natBetween_closed] at hb
  simpa [hne] using hb

/-! ### the positive clockwise distance `cw` -/

/-- clockwise distance from `x` to `key`, counting a full turn when `x = key`
    (the measure that every forwarding hop of `findSucc` strictly decreases) -/
def cw (key x : Nat) : Nat := if x = key then M else dist x key

theorem cw_le (key x : Nat) : cw key x ≤ M := by
  unfold cw; split
  · exact Nat.le_refl _
  · exact Nat.le_of_lt (dist_lt _ _)

theorem cw_pos (key x : Nat) (hk : key < M) (hx : x < M) : 0 < cw key x := by
  unfold cw; split
  · exact Nat.zero_lt_of_lt hk
  · exact dist_pos x key hx hk ‹_›

theorem cw_of_ne (key x : Nat) (h : x ≠ key) : cw key x = dist x key := if_neg h

theorem cw_self (a : Nat) : cw a a = M := if_pos rfl

theorem dist_add_cw (key x : Nat) (hk : key < M) (hx : x < M) : dist key x + cw key x = M := by
  unfold cw; split
  · subst_vars; rw [dist_self, Nat.zero_add]
  · have := dist_rebase key x key hk hx hk; have := dist_pos key x hk hx (Ne.symm ‹_›)
    have := dist_self key; have := dist_lt key x
    omega

theorem cw_add_cw (key x : Nat) (hk : key < M) (hx : x < M) (h : x ≠ key) : cw key x + cw x key = M := by
  rw [cw_of_ne key x h]; exact dist_add_cw x key hx hk

theorem dist_eq_cw_sub (a t b : Nat) (ha : a < M) (ht : t < M) (hb : b < M) (h : cw t a ≤ cw b a) :
    dist t b = cw b a - cw t a := by
  -- `cw · a` is `M - dist · a`: re-base the distances from `t` at their common end `a`
  have := dist_rebase t b a ht hb ha
  have := dist_add_cw t a ht ha; have := dist_add_cw b a hb ha; have := dist_lt t b
  omega

theorem cw_eq_cw_sub (a t b : Nat) (ha : a < M) (ht : t < M) (hb : b < M) (h : cw t a < cw b a) :
    cw b t = cw b a - cw t a := by
  rw [← dist_eq_cw_sub a t b ha ht hb (Nat.le_of_lt h)]
  exact cw_of_ne b t (fun e => by rw [e] at h; exact Nat.lt_irrefl _ h)

theorem cw_lt_of_cw_lt (a t b : Nat) (ha : a < M) (ht : t < M) (hb : b < M) (h : cw t a < cw b a) :
    cw b t < cw b a := by
  rw [cw_eq_cw_sub a t b ha ht hb h]
  exact Nat.sub_lt (Nat.zero_lt_of_lt h) (cw_pos t a ht ha)

theorem dist_eq_cw_add (a t b : Nat) (ha : a < M) (ht : t < M) (hb : b < M) (h : cw b a < cw t a) :
    dist t b = cw b a + M - cw t a := by
  have := cw_eq_cw_sub a b t ha hb ht h
  have := dist_add_cw t b ht hb; have := cw_le t a
  omega

theorem cw_inj (a b b' : Nat) (ha : a < M) (hb : b < M) (hb' : b' < M) (h : cw b a = cw b' a) : b = b' := by
  have := dist_eq_cw_sub a b b' ha hb hb' (Nat.le_of_eq h)
  exact (dist_zero_iff b b' hb hb').mp (by omega)

theorem between_open_iff_cw (a t b : Nat) (ha : a < M) (ht : t < M) (hb : b < M) :
    between a t b false = true ↔ cw t a < cw b a := by
  rw [between_open_iff a t b ha ht hb]
  have := dist_lt a t; have := dist_lt a b; have := cw_le b a
  by_cases e : a = t
  · subst e; rw [dist_self, cw_self]; omega
  · have := dist_pos a t ha ht e
    rw [cw_of_ne t a e]
    by_cases e' : a = b
    · subst e'; rw [cw_self]; omega
    · rw [cw_of_ne b a e']; omega

theorem between_closed_iff_cw (a t b : Nat) (ha : a < M) (ht : t < M) (hb : b < M) :
    between a t b true = true ↔ cw t a ≤ cw b a := by
  rw [between_eq_natBetween, C11.natBetween_closed, ← between_eq_natBetween, Bool.or_eq_true,
    between_open_iff_cw a t b ha ht hb, beq_iff_eq, Nat.le_iff_lt_or_eq]
  exact or_congr_right ⟨fun e => e ▸ rfl, cw_inj a t b ha ht hb⟩

/-- the left side is the clause by which `C01.Stable` says that no member `m` lies strictly inside `(a, b)` -/
theorem gap_iff_cw (a b m : Nat) (ha : a < M) (hb : b < M) (hm : m < M) :
    (¬ (0 < dist a m ∧ dist a m < dist a b) ∧ (a = b → m = b)) ↔ cw b a ≤ cw m a := by
  rw [← Nat.not_lt, ← between_open_iff_cw a m b ha hm hb, between_open_iff a m b ha hm hb]
  have := dist_zero_iff a m ha hm
  omega

/-- the shape the clause has in `Stable.succ` -/
theorem gap_iff_cw' (a b m : Nat) (ha : a < M) (hb : b < M) (hm : m < M) :
    (¬ (0 < dist a m ∧ dist a m < dist a b) ∧ (b = a → m = a)) ↔ cw b a ≤ cw m a := by
  rw [← gap_iff_cw a b m ha hb hm]
  exact and_congr_right fun _ => ⟨fun h e => e ▸ h e.symm, fun h e => e ▸ h e.symm⟩

theorem dist_le_of_cw_le (a b key m : Nat) (ha : a < M) (hb : b < M) (hk : key < M) (hm : m < M)
    (h1 : cw key a ≤ cw b a) (h2 : cw b a ≤ cw m a) : dist key b ≤ dist key m := by
  rw [dist_eq_cw_sub a key b ha hk hb h1, dist_eq_cw_sub a key m ha hk hm (Nat.le_trans h1 h2)]
  exact Nat.sub_le_sub_right h2 _

theorem dist_le_of_gap (a b key m : Nat) (ha : a < M) (hb : b < M) (hk : key < M) (hm : m < M)
    (hin : between a key b true = true)
    (hgap : ¬ (0 < dist a m ∧ dist a m < dist a b)) (hone : a = b → m = b) :
    dist key b ≤ dist key m :=
  dist_le_of_cw_le a b key m ha hb hk hm ((between_closed_iff_cw a key b ha hk hb).mp hin)
    ((gap_iff_cw a b m ha hb hm).mp ⟨hgap, hone⟩)

theorem between_closed_of_dist_le (p key o : Nat) (hp : p < M) (hk : key < M) (ho : o < M)
    (h : dist key o ≤ dist key p) : between p key o true = true := by
  rw [between_closed_iff_cw p key o hp hk ho]
  apply Nat.le_of_not_lt; intro hlt
  -- else `o` lies strictly inside `(p, key)`, and from `key` one passes `p` before reaching `o`
  have := cw_eq_cw_sub p o key hp ho hk hlt
  have := dist_add_cw key o hk ho; have := dist_add_cw key p hk hp; have := cw_pos o p ho hp
  omega

/-- read through `gap_iff_cw`: two gaps that end in `b` and start at members `a`, `a'` start at the same point -/
theorem gap_left_unique (a a' b : Nat) (ha : a < M) (ha' : a' < M) (hb : b < M)
    (h : cw b a ≤ cw a' a) (h' : cw b a' ≤ cw a a') : a = a' := by
  apply Decidable.byContradiction; intro hne
  -- by `h` the way from `b` to `a'` is shorter than the arc from `a` to `a'`, by `h'` it is at least as long
  have := dist_eq_cw_sub a b a' ha hb ha' h
  have := dist_add_cw b a' hb ha'; have := cw_add_cw a a' ha ha' (Ne.symm hne); have := cw_pos b a hb ha
  omega

/-- gaps do not overlap: `j`, whose next member is `s`, does not fall into the gap `(a, b)` before another member `b` -/
theorem gap_keeps (j s a b : Nat) (hj : j < M) (hs : s < M) (ha : a < M) (hb : b < M)
    (hbs : b ≠ s) (hown : cw s j ≤ cw b j) (hgap : cw b a ≤ cw s a) : cw b a ≤ cw j a := by
  apply Nat.le_of_not_lt; intro h
  -- else `b`, and `s` behind it, come after `j` going clockwise from `a`: then `s` is not nearer to `j` than `b`
  rw [cw_eq_cw_sub a j b ha hj hb h, cw_eq_cw_sub a j s ha hj hs (Nat.lt_of_lt_of_le h hgap)] at hown
  exact hbs (cw_inj a b s ha hb hs (Nat.le_antisymm hgap (Nat.le_of_sub_le_sub_right (Nat.le_of_lt h) hown)))

theorem between_closed_disjoint (p key o : Nat) (hp : p < M) (hk : key < M) (ho : o < M) (hne : p ≠ o)
    (h : between p key o true = true) : between o key p true = false := by
  rw [between_closed_iff_cw p key o hp hk ho] at h
  rw [← Bool.not_eq_true, between_closed_iff_cw o key p ho hk hp]
  exact fun h' => hne (gap_left_unique p o key hp ho hk h h')

/-- `m ∉ (a, b)`, seen from any other point `n` -/
theorem gap_rebase (a b n m : Nat) (ha : a < M) (hb : b < M) (hn : n < M) (hm : m < M)
    (hgap : cw b a ≤ cw m a) : dist n m ≤ dist n a ∨ (b ≠ n ∧ dist n b ≤ dist n m) := by
  rcases Nat.lt_or_ge (cw m a) (cw n a) with h | h
  · -- seen from `a` the order is `b`, `m`, `n`: the ways from `n` to `b` and to `m` both pass `a`
    have hbn := Nat.lt_of_le_of_lt hgap h
    have := dist_eq_cw_add a n b ha hn hb hbn; have := dist_eq_cw_add a n m ha hn hm h
    exact .inr ⟨fun e => by rw [e] at hbn; exact Nat.lt_irrefl _ hbn, by omega⟩
  · -- seen from `a`, `m` comes after `n`: the way from `n` to `m` is part of the way from `n` round to `a`
    have := dist_eq_cw_sub a n m ha hn hm h; have := dist_add_cw n a hn ha; have := cw_le m a
    exact .inl (by omega)

/-! ### `moduloSum` -/

theorem moduloSum_lt (x y : Nat) : moduloSum x y < M := by
  unfold moduloSum; exact Nat.mod_lt _ (by simp [M])

theorem dist_moduloSum_one (a b : Nat) (ha : a < M) (hb : b < M) : dist (moduloSum a 1) b + 1 = cw b a := by
  have h1 : dist a (moduloSum a 1) = 1 := by
    unfold moduloSum dist; simp only [M, Nat.reducePow] at *; omega
  -- so it is the first point met going clockwise from `a`, and the way from it to `b` is the rest
  have hne : a ≠ moduloSum a 1 := fun e => by rw [← e, dist_self] at h1; cases h1
  have h2 : cw (moduloSum a 1) a = 1 := (cw_of_ne _ _ hne).trans h1
  have := cw_pos b a hb ha
  rw [dist_eq_cw_sub a _ b ha (moduloSum_lt a 1) hb (by omega), h2]; omega

/-! ### `Net.get` / `Net.upd` -/

theorem get_mem (net : Net) (n : Nat) (nd : Node) (h : net.get n = some nd) : (n, nd) ∈ net := by
  obtain ⟨p, hf, rfl⟩ := Option.map_eq_some_iff.mp h
  have hn : p.1 = n := by simpa using List.find?_some hf
  exact hn ▸ List.mem_of_find?_eq_some hf

theorem get_upd (net : Net) (n m : Nat) (f : Node → Node) :
    (net.upd n f).get m = if m = n then (net.get n).map f else net.get m := by
  unfold Net.upd Net.get
  -- the update keeps the identifier of every entry, so the search stops at the same entry
  have hkey : ((fun p : Nat × Node => p.1 == m) ∘ fun p => if p.1 == n then (n, f p.2) else p) =
      fun p => p.1 == m := by
    funext p; by_cases h : p.1 = n <;> simp [h]
  rw [List.find?_map, hkey]
  by_cases e : m = n
  · subst e
    cases h : net.find? (·.1 == m) with
    | none => simp
    | some p => simp [show p.1 = m by simpa using List.find?_some h]
  · cases h : net.find? (·.1 == m) with
    | none => simp [e]
    | some p => simp [e, show p.1 = m by simpa using List.find?_some h]

theorem get_upd_same (net : Net) (n : Nat) (f : Node → Node) : (net.upd n f).get n = (net.get n).map f := by
  rw [get_upd]; simp

theorem get_upd_other (net : Net) (n m : Nat) (f : Node → Node) (h : m ≠ n) : (net.upd n f).get m = net.get m := by
  rw [get_upd]; simp [h]

theorem get_upd_map {α : Type} (g : Node → α) (net : Net) (n m : Nat) (f : Node → Node)
    (hf : ∀ x, net.get n = some x → g (f x) = g x) :
    ((net.upd n f).get m).map g = (net.get m).map g := by
  rw [get_upd]
  split
  · rename_i e; subst e
    cases hx : net.get m with
    | none => rfl
    | some x => simp [hf x hx]
  · rfl

theorem view_some {α : Type} (g : Node → α) (a b : Net) (h : ∀ m, (b.get m).map g = (a.get m).map g)
    (m : Nat) (x : Node) (hx : b.get m = some x) : ∃ y, a.get m = some y ∧ g x = g y := by
  have := h m
  cases h2 : a.get m with
  | none => simp [hx, h2] at this
  | some y => simp [hx, h2] at this; exact ⟨y, rfl, this⟩

/-- lifecycle state of a node (none = unknown node) -/
def stateOf (net : Net) (n : Nat) : Option St := (net.get n).map (·.state)

theorem stateOf_upd (net : Net) (n m : Nat) (f : Node → Node) :
    stateOf (net.upd n f) m = if m = n then (net.get n).map (fun nd => (f nd).state) else stateOf net m := by
  unfold stateOf; rw [get_upd]; split <;> simp [Option.map_map, Function.comp_def]

/-! ### `checkNodeState`, `ping` -/

theorem checkNodeState_congr {x y : Node} (h1 : x.state = y.state) (h2 : x.crashed = y.crashed) (b : Bool) :
    checkNodeState x b = checkNodeState y b := by
  unfold checkNodeState; rw [h1, h2]

theorem checkNodeState_ne_fuel (nd : Node) (b : Bool) : checkNodeState nd b ≠ some .fuel := by
  fun_cases checkNodeState nd b <;> simp

theorem ping_upd (net : Net) (n d : Nat) (f : Node → Node)
    (hf : ∀ x, checkNodeState (f x) true = checkNodeState x true) : ping (net.upd n f) d = ping net d := by
  have := get_upd_map (fun x => (checkNodeState x true).isNone) net n d f (fun x _ => by simp only [hf])
  unfold ping
  cases h1 : (net.upd n f).get d <;> cases h2 : net.get d <;> simp_all

/-! ### `notify` -/

theorem notify_noop (net : Net) (s n : Nat) (hp : (net.get s).map (·.pred) = some (some n)) :
    notify net s n = net := by
  cases hg : net.get s with
  | none => simp [hg] at hp
  | some nds =>
    have hp : nds.pred = some n := by simpa [hg] using hp
    unfold notify
    simp only [hg, hp, beq_self_eq_true, if_true]
    split <;> rfl

theorem notify_adopt (net : Net) (s n d : Nat)
    (hs : (net.get s).map (fun x => (checkNodeState x false, x.pred)) = some (none, some d))
    (hdn : d ≠ n) (hping : ping net d = false) :
    notify net s n =
      net.upd s (fun x => { x with surrogate := if n == s then none else some n, pred := some n }) := by
  cases hg : net.get s with
  | none => simp [hg] at hs
  | some nds =>
    have hs : checkNodeState nds false = none ∧ nds.pred = some d := by simpa [hg] using hs
    have : (d == n) = false := by simpa using hdn
    unfold notify
    simp [hg, hs.1, hs.2, this, hping]

/-! ### one step of `findSucc` -/

theorem findSucc_zero (net : Net) (n key : Nat) : findSucc net 0 n key = .err .fuel := rfl

theorem findSucc_none (net : Net) (f n key : Nat) (hg : net.get n = none) :
    findSucc net (f+1) n key = .err .unreachable := by
  rw [findSucc]; simp [hg]

theorem findSucc_dead (net : Net) (f n key : Nat) (nd : Node) (e : Err) (hg : net.get n = some nd)
    (hc : checkNodeState nd false = some e) : findSucc net (f+1) n key = .err e := by
  rw [findSucc]; simp [hg, hc]

theorem findSucc_pred (net : Net) (f n key : Nat) (nd : Node) (hg : net.get n = some nd)
    (hc : checkNodeState nd false = none) (h : inPredRange nd.pred key n = true) :
    findSucc net (f+1) n key = .found n := by
  rw [findSucc]; simp [hg, hc, h]

theorem findSucc_nosucc (net : Net) (f n key : Nat) (nd : Node) (hg : net.get n = some nd)
    (hc : checkNodeState nd false = none) (h : inPredRange nd.pred key n = false)
    (hs : nd.succs.head? = none) : findSucc net (f+1) n key = .err .noSuccessor := by
  rw [findSucc]; simp [hg, hc, h, hs]

theorem findSucc_succ_found (net : Net) (f n key s : Nat) (nd : Node) (hg : net.get n = some nd)
    (hc : checkNodeState nd false = none) (h : inPredRange nd.pred key n = false)
    (hs : nd.succs.head? = some s) (hb : between n key s true = true) :
    findSucc net (f+1) n key = .found s := by
  rw [findSucc]; simp [hg, hc, h, hs, hb]

theorem findSucc_hop (net : Net) (f n key s : Nat) (nd : Node) (hg : net.get n = some nd)
    (hc : checkNodeState nd false = none) (h : inPredRange nd.pred key n = false)
    (hs : nd.succs.head? = some s) (hb : between n key s true = false) :
    findSucc net (f+1) n key = findSucc net f (hop n key s nd.fingers) key := by
  rw [findSucc]; simp [hg, hc, h, hs, hb]

/-! ### `hop` -/

theorem closestPreceding_cases (self key : Nat) (fs : List (Option Nat)) :
    closestPreceding self key fs = self ∨
    (some (closestPreceding self key fs) ∈ fs ∧ between self (closestPreceding self key fs) key false = true) := by
  fun_cases closestPreceding self key fs
  -- the search found `f`, among the non-nil fingers
  case case1 f h =>
    have hm := List.mem_of_find?_eq_some h
    simp only [List.mem_filterMap, List.mem_reverse, id] at hm
    obtain ⟨a, ha, rfl⟩ := hm
    exact .inr ⟨ha, by simpa using List.find?_some h⟩
  -- no finger precedes the key
  case case2 => exact .inl rfl

theorem hop_cases (n key s : Nat) (fs : List (Option Nat)) :
    hop n key s fs = s ∨ (some (hop n key s fs) ∈ fs ∧ between n (hop n key s fs) key false = true) := by
  fun_cases hop n key s fs
  case case1 => exact .inl rfl
  case case2 e => exact .inr ((closestPreceding_cases n key fs).resolve_left fun h => e (by simp [h]))

theorem hop_mem {P : Nat → Prop} (n key s : Nat) (fs : List (Option Nat)) (hs : P s)
    (hfs : ∀ f, some f ∈ fs → P f) : P (hop n key s fs) := by
  rcases hop_cases n key s fs with h | ⟨hm, _⟩
  · rw [h]; exact hs
  · exact hfs _ hm

theorem hop_decreases (n key s : Nat) (fs : List (Option Nat)) (hn : n < M) (hk : key < M) (hs : s < M)
    (hfs : ∀ f, some f ∈ fs → f < M) (hb : between n key s true = false) :
    hop n key s fs < M ∧ cw key (hop n key s fs) < cw key n := by
  rcases hop_cases n key s fs with h | ⟨hm, hbt⟩
  · rw [← Bool.not_eq_true, between_closed_iff_cw n key s hn hk hs, Nat.not_le] at hb
    rw [h]; exact ⟨hs, cw_lt_of_cw_lt n s key hn hs hk hb⟩
  · exact ⟨hfs _ hm, cw_lt_of_cw_lt n _ key hn (hfs _ hm) hk
      ((between_open_iff_cw n _ key hn (hfs _ hm) hk).mp hbt)⟩

/-! ### `handOff` -/

theorem handOff_cases (net : Net) (s j : Nat) :
    (net.get s = none ∧ handOff net s j = (net, .error .unreachable)) ∨
    (∃ nd, net.get s = some nd ∧ nd.state ≠ .active ∧ handOff net s j = (net, .error .joinInvalidState)) ∨
    (∃ nd, net.get s = some nd ∧ nd.state = .active ∧ nd.pred = none ∧
        handOff net s j = (net, .error .joinInvalidState)) ∨
    (∃ nd prev, net.get s = some nd ∧ nd.state = .active ∧ nd.pred = some prev ∧ between prev j s false = false ∧
        handOff net s j = (net, .error .joinInvalidSuccessor)) ∨
    (∃ nd prev, net.get s = some nd ∧ nd.state = .active ∧ nd.pred = some prev ∧ between prev j s false = true ∧
        transferUp net s j prev nd.store = none ∧ handOff net s j = (net, .error .joinTransferFailure)) ∨
    (∃ nd prev net', net.get s = some nd ∧ nd.state = .active ∧ nd.pred = some prev ∧ between prev j s false = true ∧
        transferUp net s j prev nd.store = some net' ∧
        handOff net s j =
          (net'.upd s (fun nd => { nd with state := .transferring, pred := some j, surrogate := some j }),
           .ok (prev, makeSuccList s nd.succs succEntries))) := by
  fun_cases handOff net s j
  case case1 hg => exact .inl ⟨hg, rfl⟩
  case case2 nd hg h => exact .inr (.inl ⟨nd, hg, by simpa using h, rfl⟩)
  case case3 nd hg h hp => exact .inr (.inr (.inl ⟨nd, hg, by simpa using h, hp, rfl⟩))
  case case4 nd hg h prev hp hb =>
    exact .inr (.inr (.inr (.inl ⟨nd, prev, hg, by simpa using h, hp, by simpa using hb, rfl⟩)))
  case case5 nd hg h prev hp hb ht =>
    exact .inr (.inr (.inr (.inr (.inl ⟨nd, prev, hg, by simpa using h, hp, by simpa using hb, ht, rfl⟩))))
  case case6 nd hg h prev hp hb net' ht =>
    exact .inr (.inr (.inr (.inr (.inr ⟨nd, prev, net', hg, by simpa using h, hp, by simpa using hb, ht, rfl⟩))))

theorem handOff_ok (net net' : Net) (s j : Nat) (v : Nat × List Nat) :
    handOff net s j = (net', .ok v) →
    ∃ nd prev netT, net.get s = some nd ∧ nd.state = .active ∧ nd.pred = some prev ∧
      between prev j s false = true ∧ transferUp net s j prev nd.store = some netT ∧
      net' = netT.upd s (fun nd => { nd with state := .transferring, pred := some j, surrogate := some j }) ∧
      v = (prev, makeSuccList s nd.succs succEntries) := by
  fun_cases handOff net s j with
  | case1 | case2 | case3 | case4 | case5 => rintro ⟨⟩
  | case6 nd hg hact prev hpred hbt netT htr =>
    rintro ⟨⟩
    exact ⟨nd, prev, netT, hg, by simpa using hact, hpred, by simpa using hbt, htr, rfl, rfl⟩

end Specter.Ring
