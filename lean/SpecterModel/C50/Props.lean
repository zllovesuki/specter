import SpecterModel.C50.Model
/-!
# C50 — Clients use at most three gateways, fastest measured first

The model sorts with core's `List.mergeSort`, which is proved stable; since the comparator is a total
preorder (`le_total`, `le_trans`), *the* stable sort of a list is unique, so any stable sort
(`sort.SliceStable` — library hypothesis, validated differentially on every run) produces this list.
-/
namespace Specter.C50

variable (look : Node → Option Int)

/-- the comparator is a strict weak order: its negation-flip `le` is total … -/
theorem le_total (a b : Node) : (le look a b || le look b a) = true := by
  unfold le less
  cases look a <;> cases look b <;> simp
  omega

/-- … and transitive -/
theorem le_trans (a b c : Node) (h1 : le look a b = true) (h2 : le look b c = true) : le look a c = true := by
  unfold le less at *
  cases ha : look a <;> cases hb : look b <;> cases hc : look c <;> simp [ha, hb, hc] at h1 h2 ⊢
  omega

theorem less_irrefl (a : Node) : less look a a = false := by
  unfold less; cases look a <;> simp

/-- C50: without a recorder the first three connections are returned in map order. -/
theorem no_recorder_map_order (conns : List Node) : connected conns false look = (byKey conns).take 3 :=
  rfl

theorem connected_true (conns : List Node) : connected conns true look = (firstThree conns).mergeSort (le look) :=
  rfl

/-- C50: the client uses at most three gateways. -/
theorem at_most_three (conns : List Node) (rec : Bool) : (connected conns rec look).length ≤ 3 := by
  cases rec
  · rw [no_recorder_map_order]; exact List.length_take_le 3 _
  · rw [connected_true, List.length_mergeSort]; exact List.length_take_le 3 _

/-- C50: the gateways used are exactly the first three connections in map order. -/
theorem perm_first_three (conns : List Node) (rec : Bool) :
    (connected conns rec look).Perm ((byKey conns).take 3) ∧ (byKey conns).Perm conns := by
  refine ⟨?_, List.mergeSort_perm _ _⟩
  cases rec
  · rw [no_recorder_map_order]
  · rw [connected_true]; exact List.mergeSort_perm _ _

theorem le_iff (a b : Node) : le look a b = true ↔
    match look a, look b with
    | some l, some r => l ≤ r
    | some _, none => True
    | none, some _ => False
    | none, none => True := by
  unfold le
  fun_cases less look b a <;> simp [*]

/-- C50: with a recorder, for any two positions i < j of the result: if the later node
has a recent measurement then so has the earlier one and its average is not larger — i.e. all measured nodes
come first, in ascending order of average round-trip time, and unmeasured ones after them. -/
theorem measured_first_ascending (conns : List Node) :
    (connected conns true look).Pairwise (fun a b =>
      match look a, look b with
      | some l, some r => l ≤ r
      | some _, none => True
      | none, some _ => False
      | none, none => True) := by
  rw [connected_true]
  exact (List.pairwise_mergeSort (le_trans look) (le_total look) _).imp fun {a b} h => (le_iff look a b).mp h

/-- C50: two nodes that the comparator does not order strictly the other way round
(equal averages, or both unmeasured, or already in order) keep their map order. -/
theorem ties_keep_map_order (conns : List Node) (a b : Node)
    (hab : [a, b].Sublist (firstThree conns)) (hle : less look b a = false) :
    [a, b].Sublist (connected conns true look) := by
  rw [connected_true]
  exact List.pair_sublist_mergeSort (le_trans look) (le_total look) (by simp [le, hle]) hab

/-- map order: keys ascending -/
theorem byKey_sorted (conns : List Node) : (byKey conns).Pairwise (fun a b => a.key ≤ b.key) := by
  have := List.pairwise_mergeSort (le := fun (a b : Node) => decide (a.key ≤ b.key))
    (by intro a b c h1 h2; simp at *; exact String.le_trans h1 h2)
    (by intro a b; simp; exact String.le_total _ _) conns
  exact this.imp (fun {a b} h => by simpa using h)

/-! ### the recorder: what `RecordLatency` retains and when a key counts as measured -/

/-- the last `cap + 1` elements -/
def lastN (cap : Nat) (l : List Sample) : List Sample := l.drop (l.length - (cap + 1))

def accepted (ss : List Sample) : List Sample := ss.filter (fun s => decide (0 ≤ s.val))

theorem accepted_cons (s : Sample) (ss : List Sample) : accepted (s :: ss) = accepted [s] ++ accepted ss :=
  List.filter_append (l₁ := [s]) ..

theorem record_lastN (cap : Nat) (f : List Sample) (s : Sample) :
    record cap (lastN cap f) s = lastN cap (f ++ accepted [s]) := by
  fun_cases record cap (lastN cap f) s
  case case1 hs => rw [accepted, List.filter_cons_of_neg (by simpa using hs)]; simp
  case case2 hs =>
    rw [accepted, List.filter_cons_of_pos (by simpa using hs)]
    -- both sides are `f` without its first `f.length - cap` elements, then `s`
    have hwin : (if (lastN cap f).length > cap then (lastN cap f).drop 1 else lastN cap f) = f.drop (f.length - cap) := by
      unfold lastN
      rw [List.length_drop]
      split
      · rw [List.drop_drop]; congr 1; omega
      · congr 1; omega
    rw [hwin, lastN, List.length_append, List.drop_append_of_le_length (by simp)]
    simp

theorem foldl_record (cap : Nat) (ss f : List Sample) :
    ss.foldl (record cap) (lastN cap f) = lastN cap (f ++ accepted ss) := by
  induction ss generalizing f with
  | nil => simp [accepted]
  | cons s ss ih => rw [List.foldl_cons, record_lastN, ih, List.append_assoc, ← accepted_cons]

/-- C50: after any sequence of `RecordLatency` calls the recorder holds exactly the last
`cap + 1` accepted (non-negative) samples, each with the time of ITS OWN recording. -/
theorem retained_last_samples (cap : Nat) (ss : List Sample) :
    recordAll cap ss = lastN cap (accepted ss) := by
  simpa [recordAll, lastN] using foldl_record cap ss []

theorem getLast?_lastN (cap : Nat) (l : List Sample) : (lastN cap l).getLast? = l.getLast? := by
  unfold lastN
  rw [List.getLast?_drop]
  split
  · next h => rw [List.eq_nil_of_length_eq_zero (by omega : l.length = 0)]; rfl
  · rfl

theorem snapAvg_isSome (data : List Sample) :
    (snapAvg data).isSome = true ↔ ∃ p ∈ data, p.age ≤ windowMs := by
  simp [snapAvg, List.isEmpty_iff]

theorem measured_iff (cap : Nat) (ss : List Sample) :
    (snapAvg (recordAll cap ss)).isSome = true ↔ ∃ s ∈ lastN cap (accepted ss), s.age ≤ windowMs := by
  rw [snapAvg_isSome, retained_last_samples]

theorem recent_of_measured (cap : Nat) (ss : List Sample) (h : (snapAvg (recordAll cap ss)).isSome = true) :
    ∃ s ∈ ss, 0 ≤ s.val ∧ s.age ≤ windowMs := by
  obtain ⟨x, hx, hd⟩ := (measured_iff cap ss).mp h
  have hx' : x ∈ ss ∧ 0 ≤ x.val := by simpa [accepted] using List.mem_of_mem_drop hx
  exact ⟨x, hx'.1, hx'.2, hd⟩

/-- C50: a key whose most recent accepted sample was recorded within the window is
measured — however many samples were recorded before it (the window never "freezes"). -/
theorem latest_sample_measured (cap : Nat) (ss : List Sample) (s : Sample)
    (hlast : (accepted ss).getLast? = some s) (hrecent : s.age ≤ windowMs) :
    (snapAvg (recordAll cap ss)).isSome = true :=
  (measured_iff cap ss).mpr ⟨s, List.mem_of_getLast? ((getLast?_lastN cap _).trans hlast), hrecent⟩

/-- ages non-increasing in recording order: time only moves forward -/
def Chrono (l : List Sample) : Prop := l.Pairwise (fun a b => b.age ≤ a.age)

/-- C50: when samples are recorded as time passes, a key is measured (its snapshot
is non-nil) if and only if SOME accepted sample was recorded within the last 10 s. -/
theorem measured_iff_recent_sample (cap : Nat) (ss : List Sample) (hc : Chrono (accepted ss)) :
    (snapAvg (recordAll cap ss)).isSome = true ↔ ∃ s ∈ ss, 0 ≤ s.val ∧ s.age ≤ windowMs := by
  constructor
  · exact recent_of_measured cap ss
  · rintro ⟨s, hs, hv, ha⟩
    have hmem : s ∈ accepted ss := List.mem_filter.mpr ⟨hs, by simpa using hv⟩
    obtain ⟨ys, t, hsplit⟩ := (List.eq_nil_or_concat _).resolve_left (List.ne_nil_of_mem hmem)
    rw [List.concat_eq_append] at hsplit
    -- the last sample `t` is at least as recent as `s`
    refine latest_sample_measured cap ss t (by simp [hsplit]) ?_
    rw [hsplit] at hmem hc
    rcases List.mem_append.mp hmem with h1 | h1
    · have := (List.pairwise_append.mp hc).2.2 s h1 t (by simp)
      omega
    · simp at h1; subst h1; exact ha

/-- C50: a key contributes an average only if it has an accepted sample recorded within the
last 10 s, and then the average is that of the retained recent samples. -/
theorem snapshot_window (tab : List Entry) (k : String) (v : Int) (h : snapshot tab k = some v) :
    ∃ e ∈ tab, e.mkey = k ∧ (∃ s ∈ e.samples, 0 ≤ s.val ∧ s.age ≤ 10000) ∧
      snapAvg (lastN capacity (accepted e.samples)) = some v := by
  revert h
  fun_cases snapshot tab k
  case case1 => nofun
  case case2 e hf =>
    intro h
    refine ⟨e, List.mem_of_find?_eq_some hf, by simpa using List.find?_some hf, ?_, ?_⟩
    · exact recent_of_measured capacity e.samples (by rw [h]; rfl)
    · rw [← retained_last_samples]; exact h

/-! ### non-vacuity -/
section NonVacuity
def n1 : Node := ⟨1, "a", "10.0.0.1:1", false⟩
def n2 : Node := ⟨2, "b", "10.0.0.2:1", false⟩
def n3 : Node := ⟨3, "c", "10.0.0.3:1", true⟩
def n4 : Node := ⟨4, "d", "10.0.0.4:1", false⟩
def tab : List Entry := [⟨"10.0.0.1:1/PHY", [⟨20000, 50⟩, ⟨100, 5⟩], some 5⟩, ⟨"10.0.0.2:1/PHY", [⟨3000, 9⟩], some 9⟩,
  ⟨"10.0.0.3:1/-1", [⟨20000, 7⟩], none⟩, ⟨"10.0.0.4:1/PHY", [⟨1, 1⟩], some 1⟩]
def lk (n : Node) : Option Int := snapshot tab (mkey n)
-- n3's only point is stale: unmeasured although a sample was recorded
example : lk n1 = some 5 ∧ lk n2 = some 9 ∧ lk n3 = none ∧ lk n4 = some 1 := by decide +kernel
theorem ex_byKey : byKey [n1, n2, n3, n4] = [n1, n2, n3, n4] := List.mergeSort_of_pairwise (by decide +kernel)
theorem ex_first : firstThree [n1, n2, n3, n4] = [n1, n2, n3] := by simp [firstThree, ex_byKey, numRedundantLinks]
-- n4 (fastest) is cut off because it is fourth in map order; measured n1 (5), n2 (9) precede unmeasured n3
example : connected [n1, n2, n3, n4] true lk = [n1, n2, n3] := by
  rw [connected_true, ex_first]
  exact List.mergeSort_of_pairwise (by decide +kernel)
/-- hypotheses of `ties_keep_map_order` are satisfiable -/
example : [n1, n2].Sublist (firstThree [n1, n2, n3, n4]) ∧ less lk n2 n1 = false := by
  rw [ex_first]; decide +kernel
/-- a long-lived key: 30 old samples (value 50), then 3 recent ones (value 7): more than the 21 retained points;
it is measured, with the average of the recent samples only -/
def longLived : List Sample := (List.replicate 30 ⟨30000, 50⟩) ++ [⟨1, -4⟩] ++ List.replicate 3 ⟨100, 7⟩
example : snapAvg (recordAll capacity longLived) = some 7 := by decide +kernel
example : (recordAll capacity longLived).length = 21 := by decide +kernel
/-- hypotheses of `latest_sample_measured` / `measured_iff_recent_sample` are satisfiable -/
example : Chrono (accepted longLived) ∧ (accepted longLived).getLast? = some ⟨100, 7⟩ := by
  refine ⟨?_, by decide +kernel⟩
  unfold Chrono; decide +kernel
end NonVacuity

end Specter.C50
