import SpecterModel.C35.Model
/-!
# C35 — Forwarded HTTP requests carry only gateway-asserted client headers

All theorems quantify over EVERY outbound header map `out` that `httputil.ReverseProxy` may hand to
`proxyRewrite` (so they do not depend on the library having stripped anything), every inbound request
(`Req`), gateway port and `Hostname()` function. The operation list is the generated one.
-/
namespace Specter.C35
open Gen.C35

theorem foldl_del (ks : List String) (h : Hdr) (x : String) :
    (ks.foldl Hdr.del h) x = if x ∈ ks then [] else h x := by
  induction ks generalizing h with
  | nil => simp
  | cons k t ih =>
    simp only [List.foldl_cons, ih, List.mem_cons, Hdr.del]
    by_cases a : x = k <;> simp [a]

/-! ## Which host is "requested" — the generated selection chain against the property statement -/

/-- The generated chain never dereferences a nil `in.TLS`, and it selects exactly the REQUESTED host of the
property statement (`requestedHost`), always through `.Hostname()`. -/
theorem requested_host_rule (e : Env) (i : Req) :
    urlHost? e i = some (e.hostnameOf (requestedHost i)) := by
  have hp : (2 < i.protoMajor ∨ i.protoMajor = 2) ↔ 2 ≤ i.protoMajor := by omega
  unfold urlHost?
  fun_cases requestedHost i <;> simp [hostRule, hostDefault, selHost, HostCond.holds, HostSrc.read, *]

/-- `proxyRewrite` never panics, and its result is the header operations run with the requested host. -/
theorem rewrite_eq (e : Env) (i : Req) (out : Hdr) :
    rewrite e i out = some (rewriteWith e.port (e.hostnameOf (requestedHost i)) i out) := by
  simp [rewrite, requested_host_rule]

theorem rewrite_never_panics (e : Env) (i : Req) (out : Hdr) : (rewrite e i out).isSome := by
  simp [rewrite_eq]

/-- on HTTP/2 and HTTP/3 the selected host is the request's own authority: the SNI has no influence -/
theorem url_host_is_authority_on_h2_h3 (e : Env) (i : Req) (h2 : 2 ≤ i.protoMajor) :
    urlHost? e i = some (e.hostnameOf i.host) := by
  simp [requested_host_rule, requestedHost, h2]

-- header names are compared as string literals
attribute [local simp] XFF XFH XFP TCI XRI

theorem setXForwarded_apply (i : Req) (h : Hdr) (k : String) (hx : h XFF = []) :
    setXForwarded i h k =
      if k = XFP then [if i.tls.isSome then "https" else "http"] else if k = XFH then [i.host]
      else if k = XFF then i.peer.toList else h k := by
  unfold setXForwarded
  cases i.peer with
  | none => rfl
  | some ip => rw [hx]; rfl

/-- `X-Forwarded-For` comes out as the bare peer because the deletions run before `SetXForwarded` reads the prior
value. -/
theorem rewriteWith_apply (port : Nat) (uh : String) (i : Req) (out : Hdr) (k : String) :
    rewriteWith port uh i out k =
      if k = XFP then ["https"] else if k = XFH then [withPort port uh] else if k = XFF then i.peer.toList
      else if k ∈ delHeaders then [] else out k := by
  have hx : (delHeaders.foldl Hdr.del out) XFF = [] := by simp [foldl_del, delHeaders]
  dsimp only [rewriteWith, rewriteOps, List.foldl, applyOp, Hdr.set]
  rw [setXForwarded_apply _ _ _ hx, foldl_del]
  -- what `SetXForwarded` wrote under the two names that are `Set` after it is overridden
  by_cases h1 : k = XFP
  · subst h1; simp
  by_cases h2 : k = XFH
  · subst h2; simp [withPort]
  simp [h1, h2]

theorem rewrite_apply {e : Env} {i : Req} {out h : Hdr} (hr : rewrite e i out = some h) (k : String) :
    h k = rewriteWith e.port (e.hostnameOf (requestedHost i)) i out k := by
  rw [rewrite_eq] at hr; cases hr; rfl

/-- X-Forwarded-For is exactly the connecting peer's IP: no client-supplied element is kept. -/
theorem xff_peer_only (e : Env) (i : Req) (out h : Hdr) (ip : String) (hp : i.peer = some ip)
    (hr : rewrite e i out = some h) : h XFF = [ip] := by
  simp [rewrite_apply hr, rewriteWith_apply, hp]

/-- No peer address (unparsable RemoteAddr): the header is absent rather than client-controlled. -/
theorem xff_absent_without_peer (e : Env) (i : Req) (out h : Hdr) (hp : i.peer = none)
    (hr : rewrite e i out = some h) : h XFF = [] := by
  simp [rewrite_apply hr, rewriteWith_apply, hp]

theorem xfproto_https (e : Env) (i : Req) (out h : Hdr) (hr : rewrite e i out = some h) : h XFP = ["https"] := by
  simp [rewrite_apply hr, rewriteWith_apply]

/-- X-Forwarded-Host = requested host name, with the gateway port unless it is 443. -/
theorem xfhost_requested (e : Env) (i : Req) (out h : Hdr) (hr : rewrite e i out = some h) :
    h XFH = [wantHost e i] := by
  simp [rewrite_apply hr, rewriteWith_apply, wantHost]

/-- HTTP/2 and HTTP/3 (connection coalescing): X-Forwarded-Host names the request's own authority (+port),
for every TLS state / SNI of the connection the request arrived on. -/
theorem xfhost_is_authority_on_h2_h3 (e : Env) (i : Req) (out h : Hdr) (h2 : 2 ≤ i.protoMajor)
    (hr : rewrite e i out = some h) : h XFH = [withPort e.port (e.hostnameOf i.host)] := by
  rw [xfhost_requested e i out h hr]; simp [wantHost, requestedHost, h2]

/-- … hence two HTTP/2+ requests for the same authority get the same X-Forwarded-Host whatever connection
(SNI, TLS or not, minor version, peer) and whatever client headers they came with. -/
theorem xfhost_independent_of_sni_on_h2_h3 (e : Env) (i₁ i₂ : Req) (out₁ out₂ h₁ h₂ : Hdr)
    (p₁ : 2 ≤ i₁.protoMajor) (p₂ : 2 ≤ i₂.protoMajor) (hh : i₁.host = i₂.host)
    (r₁ : rewrite e i₁ out₁ = some h₁) (r₂ : rewrite e i₂ out₂ = some h₂) : h₁ XFH = h₂ XFH := by
  rw [xfhost_is_authority_on_h2_h3 e i₁ out₁ h₁ p₁ r₁, xfhost_is_authority_on_h2_h3 e i₂ out₂ h₂ p₂ r₂, hh]

/-- HTTP/1.x over TLS: the connection's SNI (+port) is forwarded, not the client's Host header. -/
theorem xfhost_is_sni_on_http1_tls (e : Env) (i : Req) (out h : Hdr) (sni : String) (h1 : i.protoMajor < 2)
    (ht : i.tls = some sni) (hr : rewrite e i out = some h) : h XFH = [withPort e.port (e.hostnameOf sni)] := by
  rw [xfhost_requested e i out h hr]
  simp [wantHost, requestedHost, Nat.not_le.2 h1, ht]

theorem client_ip_headers_removed (e : Env) (i : Req) (out h : Hdr) (hr : rewrite e i out = some h) :
    h TCI = [] ∧ h XRI = [] := by
  simp [rewrite_apply hr, rewriteWith_apply, delHeaders]

def guarded : List String := [XFF, XFH, XFP, TCI, XRI]

/-- Non-interference: the five guarded headers of the forwarded request do not depend on ANY header the
client sent (nor on what the library left in place): two arbitrary outbound maps give the same values. -/
theorem guarded_independent_of_client_headers (e : Env) (i : Req) (out₁ out₂ h₁ h₂ : Hdr) (k : String)
    (hk : k ∈ guarded) (r₁ : rewrite e i out₁ = some h₁) (r₂ : rewrite e i out₂ = some h₂) : h₁ k = h₂ k := by
  rw [rewrite_apply r₁, rewrite_apply r₂, rewriteWith_apply, rewriteWith_apply]
  simp only [guarded, List.mem_cons, List.mem_nil_iff, or_false] at hk
  rcases hk with rfl | rfl | rfl | rfl | rfl <;> simp [delHeaders]

/-- Frame: every other header is passed through untouched by `proxyRewrite` (this is why e.g. a client
`X-Forwarded-Port` reaches the tunnel: recorded by the harness as an observation). -/
theorem other_headers_untouched (e : Env) (i : Req) (out h : Hdr) (k : String) (hk : k ∉ guarded)
    (hr : rewrite e i out = some h) : h k = out k := by
  simp only [guarded, List.mem_cons, List.mem_nil_iff, or_false, not_or] at hk
  simp [rewrite_apply hr, rewriteWith_apply, delHeaders, hk]

/-! ## Non-vacuity: a spoofing request over HTTP/1.1+TLS on port 8443, and the same request arriving over
HTTP/2 / HTTP/3 on a coalesced connection (SNI `app.example.com`, authority `other.example.com`) -/
private def spoof : Hdr := Hdr.ofList [(XFF, ["6.6.6.6", "10.0.0.1"]), (XFH, ["evil.example"]), (XFP, ["http"]),
  (TCI, ["6.6.6.6"]), (XRI, ["6.6.6.6"]), ("X-Forwarded-Port", ["1"])]
private def env1 : Env := ⟨8443, id⟩
private def req1 : Req := ⟨1, 1, some "app.example.com", "other.example.com", some "198.51.100.7"⟩
private def req3 : Req := { req1 with protoMajor := 3, protoMinor := 0 }
private def get (r : Option Hdr) (k : String) : Option (List String) := r.map (· k)

example : get (rewrite env1 req1 spoof) XFF = some ["198.51.100.7"] := by decide +kernel
example : get (rewrite env1 req1 spoof) XFH = some ["app.example.com:8443"] := by decide +kernel
example : get (rewrite ⟨443, id⟩ { req1 with protoMajor := 2, protoMinor := 0 } spoof) XFH = some ["other.example.com"] := by decide +kernel
example : get (rewrite env1 req3 spoof) XFH = some ["other.example.com:8443"] := by decide +kernel
example : get (rewrite env1 { req3 with tls := some "third.example.com" } spoof) XFH = some ["other.example.com:8443"] := by decide +kernel
example : 2 ≤ req3.protoMajor ∧ req3.tls ≠ some req3.host ∧ (rewrite env1 req3 spoof).isSome := by decide +kernel
example : req1.protoMajor < 2 ∧ req1.tls = some "app.example.com" := by decide +kernel
example : get (rewrite env1 req1 spoof) XFP = some ["https"] ∧ get (rewrite env1 req1 spoof) TCI = some [] ∧
    get (rewrite env1 req1 spoof) XRI = some [] := by decide +kernel
example : spoof XFF = ["6.6.6.6", "10.0.0.1"] ∧ spoof TCI = ["6.6.6.6"] := by decide +kernel
example : get (rewrite env1 req1 spoof) "X-Forwarded-Port" = some ["1"] := by decide +kernel

end Specter.C35
