import SpecterModel.C27.Model
import SpecterModel.Lists
/-!
# C27 — Gateway connections reach only a client published for the hostname

Theorems over the model of `DialClient` / `getConn` / `handleProxyConn` (Model.lean), for ALL slot
lists, route lists and environments. The model is tied to tun/server/server.go differentially
(harness/cmd/c27: all 16^3 lookup/behaviour combinations against the real code).
-/
namespace Specter.C27

/-- the form C28 proves of Go's insertion sort itself (`C28.isort_lessLocal`, the same loader modelled
with its sort); here the fold is the definition -/
theorem order_eq (rs : List Route) :
    order rs = (rs.filter (·.isLocal)).reverse ++ rs.filter (fun r => !r.isLocal) := by
  unfold order; rw [foldl_front_back]; simp

theorem mem_order {rs : List Route} {r : Route} : r ∈ order rs ↔ r ∈ rs := by
  rw [order_eq]; simp only [List.mem_append, List.mem_reverse, List.mem_filter]
  cases r.isLocal <;> simp

/-- **local first**: a block of local routes, then the remote routes in their lookup order. -/
theorem local_first (rs : List Route) :
    ∃ ls rm, order rs = ls ++ rm ∧ (∀ r ∈ ls, r.isLocal = true) ∧ (∀ r ∈ rm, r.isLocal = false)
      ∧ rm = rs.filter (fun r => !r.isLocal) ∧ ls.Perm (rs.filter (·.isLocal)) := by
  refine ⟨(rs.filter (·.isLocal)).reverse, rs.filter (fun r => !r.isLocal), order_eq rs, ?_, ?_, rfl,
    List.reverse_perm _⟩
  · intro r hr; simpa using (List.mem_filter.mp (List.mem_reverse.mp hr)).2
  · intro r hr; simpa using (List.mem_filter.mp hr).2

theorem mem_slotRoutes {slots : List Slot} {r : Route} :
    r ∈ slotRoutes slots ↔ slots[r.idx]? = some (.route r.isLocal r.client) := by
  unfold slotRoutes
  rw [List.mem_filterMap]
  constructor
  · rintro ⟨⟨s, i⟩, hm, hs⟩
    have := List.mem_zipIdx_iff_getElem?.mp hm
    cases s <;> simp [slotRoute] at hs
    subst hs; simpa using this
  · intro h
    exact ⟨(.route r.isLocal r.client, r.idx), List.mem_zipIdx_iff_getElem?.mpr h, by simp [slotRoute]⟩

theorem lookup_eq (slots : List Slot) :
    lookup slots = if ∀ s ∈ slots, s = .empty then .notFound
      else if ∀ s ∈ slots, isErrSlot s = true then .failed
      else .routes (order (slotRoutes slots)) := by
  simp only [lookup, eq_comm (a := slots.length), List.countP_eq_length, beq_iff_eq]

theorem lookup_routes {slots : List Slot} {rs : List Route} (h : lookup slots = .routes rs) :
    rs = order (slotRoutes slots) := by
  revert h
  fun_cases lookup slots
  · rintro ⟨⟩
  · rintro ⟨⟩
  · rintro ⟨⟩; rfl

theorem lookup_of_route {slots : List Slot} {i : Nat} {l : Bool} {c : Nat}
    (hr : slots[i]? = some (.route l c)) : lookup slots = .routes (order (slotRoutes slots)) := by
  have hm := List.mem_of_getElem? hr
  rw [lookup_eq, if_neg (fun h => by cases h _ hm), if_neg (fun h => by cases h _ hm)]

theorem slotRoutes_nil {slots : List Slot} (h : ∀ s ∈ slots, isRoute s = false) : slotRoutes slots = [] := by
  apply List.eq_nil_iff_forall_not_mem.mpr
  intro r hr
  have := h _ (List.mem_of_getElem? (mem_slotRoutes.mp hr))
  simp [isRoute] at this

theorem lookup_no_route (slots : List Slot) (h : ∀ s ∈ slots, isRoute s = false) :
    lookup slots = .notFound ∨ lookup slots = .failed ∨ lookup slots = .routes [] := by
  fun_cases lookup slots
  · exact .inl rfl
  · exact .inr (.inl rfl)
  · exact .inr (.inr (by rw [slotRoutes_nil h]; rfl))

theorem lookup_failed_iff_slots (slots : List Slot) :
    lookup slots = .failed ↔ slots ≠ [] ∧ ∀ s ∈ slots, isErrSlot s = true := by
  rw [lookup_eq]
  split
  · next he =>
    refine iff_of_false nofun fun ⟨hne, hall⟩ => ?_
    obtain ⟨a, ha⟩ := List.exists_mem_of_ne_nil slots hne
    have := hall a ha
    rw [he a ha] at this
    cases this
  · next he =>
    split
    · next hall => exact ⟨fun _ => ⟨fun e => he (by simp [e]), hall⟩, fun _ => rfl⟩
    · next hall => simp [hall]

def ok (env : Nat → Env) (r : Route) : Prop := tryRoute r.isLocal (env r.idx) = .ok
def noDirect (env : Nat → Env) (r : Route) : Prop := tryRoute r.isLocal (env r.idx) = .noDirect

theorem loop_spec (env : Nat → Env) (t : Nat) (rs : List Route) (nr : Bool) :
    (∃ pre r post, rs = pre ++ r :: post ∧ ok env r ∧ (∀ p ∈ pre, ¬ ok env p)
        ∧ (loop env t rs nr).outcome = .found r.idx ∧ (loop env t rs nr).tried = (pre ++ [r]).map (·.idx))
    ∨ ((∀ r ∈ rs, ¬ ok env r) ∧ (loop env t rs nr).tried = rs.map (·.idx)
        ∧ (loop env t rs nr).outcome
            = if nr || rs.any (fun r => decide (tryRoute r.isLocal (env r.idx) = .noDirect)) || decide (t > 0)
              then .notConnected else .notFound) := by
  fun_induction loop env t rs nr
  case case1 => exact .inr ⟨nofun, rfl, by rw [List.any_nil, Bool.or_false]⟩      -- no route left
  case case2 r rs nr hr => exact .inl ⟨[], r, rs, rfl, hr, nofun, rfl, rfl⟩          -- the client accepts
  -- no-direct / hard error: the route is skipped
  case case3 r rs nr hr x ih | case4 r rs nr c hr x ih =>
    have hn : ¬ ok env r := fun h => by rw [ok, hr] at h; cases h
    refine ih.imp ?_ ?_
    · rintro ⟨pre, r', post, e, hok, hpre, ho, htr⟩
      exact ⟨r :: pre, r', post, by rw [e]; rfl, hok, List.forall_mem_cons.mpr ⟨hn, hpre⟩, ho,
        congrArg (r.idx :: ·) htr⟩
    · rintro ⟨hall, htr, ho⟩
      refine ⟨List.forall_mem_cons.mpr ⟨hn, hall⟩, congrArg (r.idx :: ·) htr, ho.trans ?_⟩
      -- under `hr` the head's share of the no-direct flag evaluates
      rw [List.any_cons, hr]
      cases nr <;> rfl

theorem dialClient_spec (slots : List Slot) (env : Nat → Env) :
    ((lookup slots = .notFound ∨ lookup slots = .routes []) ∧ dialClient slots env = ⟨.notFound, [], []⟩)
    ∨ (lookup slots = .failed ∧ dialClient slots env = ⟨.lookupFailed, [], []⟩)
    ∨ (∃ rs, lookup slots = .routes rs ∧ rs ≠ [] ∧ (∀ r ∈ rs, ¬ ok env r)
        ∧ (dialClient slots env).outcome = .notConnected ∧ (dialClient slots env).tried = rs.map (·.idx))
    ∨ (∃ pre r post, lookup slots = .routes (pre ++ r :: post) ∧ ok env r ∧ (∀ p ∈ pre, ¬ ok env p)
        ∧ (dialClient slots env).outcome = .found r.idx
        ∧ (dialClient slots env).tried = (pre ++ [r]).map (·.idx)) := by
  fun_cases dialClient slots env
  case case1 hl => exact .inl ⟨.inl hl, rfl⟩
  case case2 hl => exact .inr (.inl ⟨hl, rfl⟩)
  case case3 rs hl =>
    rcases loop_spec env rs.length rs false with ⟨pre, r, post, rfl, h⟩ | ⟨hall, htr, ho⟩
    · exact .inr (.inr (.inr ⟨pre, r, post, hl, h⟩))
    · cases rs with
      | nil => exact .inl ⟨.inr hl, rfl⟩
      | cons a as => exact .inr (.inr (.inl ⟨_, hl, by simp, hall, by simpa using ho, htr⟩))

/-- **first success in order**: the winner is the first route, in the local-first order, whose client
is reachable; exactly the routes before it and itself were dialled, in that order. -/
theorem first_success_in_order (slots : List Slot) (env : Nat → Env) (k : Nat)
    (h : (dialClient slots env).outcome = .found k) :
    ∃ pre r post, order (slotRoutes slots) = pre ++ r :: post ∧ r.idx = k ∧ ok env r
      ∧ (∀ p ∈ pre, ¬ ok env p) ∧ (dialClient slots env).tried = (pre ++ [r]).map (·.idx) := by
  rcases dialClient_spec slots env with ⟨-, e⟩ | ⟨-, e⟩ | ⟨rs, -, -, -, ho, -⟩
    | ⟨pre, r, post, hl, hok, hpre, ho, htr⟩
  · rw [e] at h; cases h
  · rw [e] at h; cases h
  · rw [ho] at h; cases h
  · rw [ho] at h; cases h
    exact ⟨pre, r, post, (lookup_routes hl).symm, rfl, hok, hpre, htr⟩

/-- **only a published client**: a connection is only ever handed out for a slot that holds a route of
the hostname, and that route's client accepted the stream and the link frame (`tryRoute = ok`:
`getConn` produced a connection and `rpc.Send(conn, link)` succeeded). -/
theorem only_published_client (slots : List Slot) (env : Nat → Env) (k : Nat)
    (h : (dialClient slots env).outcome = .found k) :
    ∃ l c, slots[k]? = some (.route l c) ∧ tryRoute l (env k) = .ok := by
  obtain ⟨pre, r, post, e, rfl, hok, -, -⟩ := first_success_in_order slots env k h
  have hm : r ∈ order (slotRoutes slots) := by rw [e]; simp
  exact ⟨r.isLocal, r.client, mem_slotRoutes.mp (mem_order.mp hm), hok⟩

theorem tried_prefix (slots : List Slot) (env : Nat → Env) (rs : List Route)
    (hl : lookup slots = .routes rs) :
    (dialClient slots env).tried <+: rs.map (·.idx) := by
  rcases dialClient_spec slots env with ⟨-, e⟩ | ⟨hl', -⟩ | ⟨rs', hl', -, -, -, htr⟩
    | ⟨pre, r, post, hl', -, -, -, htr⟩
  · rw [e]; exact List.nil_prefix
  · rw [hl] at hl'; cases hl'
  · rw [hl] at hl'; cases hl'; rw [htr]; exact List.prefix_refl _
  · rw [hl] at hl'; cases hl'; rw [htr]; exact ⟨post.map (·.idx), by simp⟩

theorem found_iff (slots : List Slot) (env : Nat → Env) :
    (∃ k, (dialClient slots env).outcome = .found k)
      ↔ ∃ rs, lookup slots = .routes rs ∧ ∃ r ∈ rs, ok env r := by
  rcases dialClient_spec slots env with ⟨hl | hl, e⟩ | ⟨hl, e⟩ | ⟨rs, hl, -, hall, ho, -⟩
    | ⟨pre, r, post, hl, hok, -, ho, -⟩
  · simp [hl, e]
  · simp [hl, e]
  · simp [hl, e]
  · simpa [hl, ho] using hall
  · exact ⟨fun _ => ⟨_, hl, r, by simp, hok⟩, fun _ => ⟨_, ho⟩⟩

/-- **not connected**: the hostname has routes but no client could be reached, whatever the kind of
failure (no-direct, hard error, link not sent). -/
theorem not_connected_iff (slots : List Slot) (env : Nat → Env) :
    (dialClient slots env).outcome = .notConnected
      ↔ ∃ rs, lookup slots = .routes rs ∧ rs ≠ [] ∧ ∀ r ∈ rs, ¬ ok env r := by
  rcases dialClient_spec slots env with ⟨hl | hl, e⟩ | ⟨hl, e⟩ | ⟨rs, hl, hne, hall, ho, -⟩
    | ⟨pre, r, post, hl, hok, -, ho, -⟩
  · simp [hl, e]
  · simp [hl, e]
  · simp [hl, e]
  · exact ⟨fun _ => ⟨rs, hl, hne, hall⟩, fun _ => ho⟩
  · simp only [hl, ho, reduceCtorEq, false_iff]
    rintro ⟨_, ⟨⟩, -, hall⟩
    exact hall r (by simp) hok

/-- **not found**: no routes — every lookup slot empty, or a mix of empty / failed slots that yields no route. -/
theorem not_found_iff (slots : List Slot) (env : Nat → Env) :
    (dialClient slots env).outcome = .notFound
      ↔ lookup slots = .notFound ∨ lookup slots = .routes [] := by
  rcases dialClient_spec slots env with ⟨hl, e⟩ | ⟨hl, e⟩ | ⟨rs, hl, hne, -, ho, -⟩
    | ⟨pre, r, post, hl, -, -, ho, -⟩
  · exact iff_of_true (by rw [e]) hl
  · simp [hl, e]
  · simpa [hl, ho] using hne
  · simp [hl, ho]

theorem lookup_failed_iff (slots : List Slot) (env : Nat → Env) :
    (dialClient slots env).outcome = .lookupFailed ↔ slots ≠ [] ∧ ∀ s ∈ slots, isErrSlot s = true := by
  rw [← lookup_failed_iff_slots]
  rcases dialClient_spec slots env with ⟨hl | hl, e⟩ | ⟨hl, e⟩ | ⟨rs, hl, -, -, ho, -⟩
    | ⟨pre, r, post, hl, -, -, ho, -⟩
  · simp [hl, e]
  · simp [hl, e]
  · simp [hl, e]
  · simp [hl, ho]
  · simp [hl, ho]

/-- property wording, first half: H has no routes (all slots empty) ⇒ not-found -/
theorem no_routes_not_found (slots : List Slot) (env : Nat → Env) (h : ∀ s ∈ slots, s = .empty) :
    (dialClient slots env).outcome = .notFound := by
  rw [not_found_iff, lookup_eq, if_pos h]
  exact .inl rfl

/-- property wording, second half: some slot holds a route and no route's client is reachable ⇒ not-connected -/
theorem routes_unreachable_not_connected (slots : List Slot) (env : Nat → Env) (i : Nat) (l : Bool) (c : Nat)
    (hr : slots[i]? = some (.route l c))
    (hun : ∀ j l c, slots[j]? = some (.route l c) → tryRoute l (env j) ≠ .ok) :
    (dialClient slots env).outcome = .notConnected := by
  rw [not_connected_iff]
  refine ⟨_, lookup_of_route hr, List.ne_nil_of_mem (mem_order.mpr (mem_slotRoutes (r := ⟨i, l, c⟩).mpr hr)), ?_⟩
  intro r hr' ho
  exact hun r.idx r.isLocal r.client (mem_slotRoutes.mp (mem_order.mp hr')) ho

theorem reachable_found (slots : List Slot) (env : Nat → Env) (i : Nat) (l : Bool) (c : Nat)
    (hr : slots[i]? = some (.route l c)) (hok : tryRoute l (env i) = .ok) :
    ∃ k, (dialClient slots env).outcome = .found k := by
  rw [found_iff]
  refine ⟨_, lookup_of_route hr, ⟨i, l, c⟩, mem_order.mpr (mem_slotRoutes.mpr hr), hok⟩

/-! ### no route recorded (absent and/or failed lookups only) -/

/-- **no routes ⇒ never "has routes"**: when no lookup returned a route for H — whatever mix of absent,
failed and undecodable lookups — nothing is dialled and the answer is never not-connected. -/
theorem no_route_never_connected (slots : List Slot) (env : Nat → Env)
    (h : ∀ s ∈ slots, isRoute s = false) :
    ((dialClient slots env).outcome = .notFound ∨ (dialClient slots env).outcome = .lookupFailed)
      ∧ (dialClient slots env).tried = [] := by
  unfold dialClient
  rcases lookup_no_route slots h with hl | hl | hl <;> simp [hl, loop]

/-- **partial lookup failure, no route ⇒ not-found**: with `no_routes_not_found` (all absent) this is
"not-found when H has no routes" under lookup errors. -/
theorem partial_lookup_failure_not_found (slots : List Slot) (env : Nat → Env)
    (h : ∀ s ∈ slots, isRoute s = false) (he : ∃ s ∈ slots, s = .empty) :
    (dialClient slots env).outcome = .notFound := by
  rcases (no_route_never_connected slots env h).1 with hn | hf
  · exact hn
  · obtain ⟨s, hs, rfl⟩ := he
    have := ((lookup_failed_iff slots env).mp hf).2 _ hs
    simp [isErrSlot] at this

/-- converse direction for not-connected: it is only ever reported for a hostname with a recorded route -/
theorem not_connected_has_route (slots : List Slot) (env : Nat → Env)
    (h : (dialClient slots env).outcome = .notConnected) : ∃ (i : Nat) (l : Bool) (c : Nat), slots[i]? = some (Slot.route l c) := by
  obtain ⟨rs, hl, hne, -⟩ := (not_connected_iff slots env).mp h
  obtain ⟨r, hr⟩ := List.exists_mem_of_ne_nil rs hne
  rw [lookup_routes hl] at hr
  exact ⟨r.idx, r.isLocal, r.client, mem_slotRoutes.mp (mem_order.mp hr)⟩

/-! ### several visitors: route cache and visitor contexts

The lookup runs under the server's parent context and its answer is cached per hostname; the visitor's
own context only reaches the dials. Consequence proved here: in ANY sequence of visits during which the
KV content of each hostname does not change, what a visitor gets is `dialClient` of the hostname's
slots and of the world's answers to ITS dials — independent of who visited before and of whether those
earlier visitors' contexts were cancelled. All theorems above therefore hold visit by visit. -/

/-- `visit` dials with whatever answer the cache holds (`dialWith`); a single call is the case of a fresh one -/
theorem dialClient_eq_dialWith (slots : List Slot) (env : Nat → Env) :
    dialClient slots env = dialWith (lookup slots) env := rfl

/-- every cached answer is the loader's answer for the hostname's KV content -/
def CacheOk (slotsOf : String → List Slot) (c : Cache) : Prop :=
  ∀ h lk, cacheGet c h = some lk → lk = lookup (slotsOf h)

theorem cacheOk_nil (slotsOf : String → List Slot) : CacheOk slotsOf [] := by
  intro h lk hg; simp [cacheGet] at hg

theorem cacheGet_cons (c : Cache) (h' : String) (lk : Lookup) (h : String) :
    cacheGet ((h', lk) :: c) h = if h' = h then some lk else cacheGet c h := by
  unfold cacheGet
  by_cases e : h' = h <;> simp [e]

/-- the cache after a visit, and whether the loader ran, depend on the hostname and the KV only —
not on the visitor's context, not on how the world answers dials -/
theorem lookup_ignores_visitor (c : Cache) (v : Visit) (w : Visitor) (env' : Nat → Env) :
    (visit c { v with vis := w, env := env' }).1 = (visit c v).1
      ∧ (visit c { v with vis := w, env := env' }).2.kvGets = (visit c v).2.kvGets := by
  unfold visit cachedLookup
  cases cacheGet c v.host <;> simp

/-- one visit: `dialClient` on the hostname's slots, every dial failing iff the visitor's context is
done; the loader runs iff the hostname is not cached; the cache stays faithful -/
theorem visit_stable (slotsOf : String → List Slot) (c : Cache) (v : Visit)
    (hc : CacheOk slotsOf c) (hv : v.slots = slotsOf v.host) :
    CacheOk slotsOf (visit c v).1
      ∧ (visit c v).2.result
          = dialClient (slotsOf v.host) (effEnv (visitorDone v.vis (cacheGet c v.host).isNone) v.env)
      ∧ (visit c v).2.kvGets = (if (cacheGet c v.host).isNone then v.slots.length else 0) := by
  unfold visit cachedLookup
  cases hg : cacheGet c v.host with
  | some lk =>
    have := hc _ _ hg
    refine ⟨hc, ?_, by simp⟩
    simp only [Option.isNone_some]
    rw [dialClient_eq_dialWith, this]
  | none =>
    refine ⟨?_, ?_, by simp⟩
    · intro h lk hget
      rw [cacheGet_cons] at hget
      split at hget
      · next e => rw [← Option.some.inj hget, hv, e]
      · exact hc _ _ hget
    · simp only [Option.isNone_none]
      rw [dialClient_eq_dialWith, hv]

def cacheAfter (c : Cache) (ops : List Visit) : Cache := ops.foldl (fun c v => (visit c v).1) c

theorem run_append_one (c : Cache) (ops : List Visit) (v : Visit) :
    run c (ops ++ [v]) = run c ops ++ [(visit (cacheAfter c ops) v).2] := by
  induction ops generalizing c with
  | nil => simp [run, cacheAfter]
  | cons a as ih => simp [run, cacheAfter, ih, List.foldl_cons]

theorem cacheAfter_ok (slotsOf : String → List Slot) (ops : List Visit) (c : Cache)
    (hc : CacheOk slotsOf c) (hst : ∀ v ∈ ops, v.slots = slotsOf v.host) :
    CacheOk slotsOf (cacheAfter c ops) :=
  List.foldlRecOn ops _ hc fun c hc v hv => (visit_stable slotsOf c v hc (hst v hv)).1

/-- a hostname is cached exactly when somebody visited it before (whatever that visitor's context) -/
theorem cached_iff_visited (ops : List Visit) (c : Cache) (h : String) :
    (cacheGet (cacheAfter c ops) h).isSome ↔ (cacheGet c h).isSome ∨ ∃ v ∈ ops, v.host = h := by
  induction ops generalizing c with
  | nil => simp [cacheAfter]
  | cons a as ih =>
    have h1 : (cacheGet (visit c a).1 h).isSome ↔ (cacheGet c h).isSome ∨ a.host = h := by
      unfold visit cachedLookup
      cases hg : cacheGet c a.host with
      | some lk => exact ⟨Or.inl, fun | .inl x => x | .inr e => by simp [← e, hg]⟩
      | none => by_cases e : a.host = h <;> simp [cacheGet_cons, e]
    rw [cacheAfter, List.foldl_cons, ← cacheAfter, ih, h1, or_assoc]
    simp

/-- **visitor independence**: the `pre` visitors come first — any hostnames, any contexts (live, gone,
cancelled during the lookup), any dial behaviour — then `v` visits. As long as the KV content of each
hostname is the same throughout (`hst`), `v` gets exactly `dialClient` of its hostname's slots under the
world's answers to its own dials; only `v`'s own context matters (done ⇒ its dials fail). -/
theorem visitor_independence (slotsOf : String → List Slot) (pre : List Visit) (v : Visit)
    (hst : ∀ x ∈ pre ++ [v], x.slots = slotsOf x.host) :
    ∃ ran, (run [] (pre ++ [v])).getLast? =
        some ⟨dialClient (slotsOf v.host) (effEnv (visitorDone v.vis ran) v.env),
              if ran then v.slots.length else 0⟩
      ∧ (ran = false ↔ ∃ x ∈ pre, x.host = v.host) := by
  have hc : CacheOk slotsOf (cacheAfter [] pre) :=
    cacheAfter_ok slotsOf pre [] (cacheOk_nil _) (fun x hx => hst x (List.mem_append_left _ hx))
  have hv : v.slots = slotsOf v.host := hst v (by simp)
  obtain ⟨-, h2, h3⟩ := visit_stable slotsOf _ v hc hv
  refine ⟨(cacheGet (cacheAfter [] pre) v.host).isNone, ?_, ?_⟩
  · rw [run_append_one, List.getLast?_append, List.getLast?_singleton, Option.some_or, ← h2, ← h3]
  · rw [← Option.not_isSome, Bool.not_eq_false', cached_iff_visited]
    simp [cacheGet]

theorem live_visitor_last (slotsOf : String → List Slot) (pre : List Visit) (v : Visit)
    (hst : ∀ x ∈ pre ++ [v], x.slots = slotsOf x.host) (hl : v.vis = .live) :
    ∃ n, (run [] (pre ++ [v])).getLast? = some ⟨dialClient v.slots v.env, n⟩ := by
  obtain ⟨ran, h, -⟩ := visitor_independence slotsOf pre v hst
  rw [hl, ← hst v (by simp)] at h
  exact ⟨_, h⟩

/-- **a live visitor is not affected by earlier visitors** -/
theorem live_visitor_unaffected (slotsOf : String → List Slot) (pre : List Visit) (v : Visit)
    (hst : ∀ x ∈ pre ++ [v], x.slots = slotsOf x.host) (hl : v.vis = .live) :
    ((run [] (pre ++ [v])).getLast?).map (·.result) = some (dialClient (slotsOf v.host) v.env) := by
  obtain ⟨n, h⟩ := live_visitor_last slotsOf pre v hst hl
  rw [h, hst v (by simp)]
  rfl

/-- **a cancelled visitor cannot poison the hostname**: whatever visitors came before — in particular
visitors of the same hostname whose context was already cancelled, or was cancelled during the route
lookup — a live visitor of a hostname that has a route with a reachable client is connected, and the
connection goes to a published client of that hostname that accepted stream and link. -/
theorem live_visitor_connected (slotsOf : String → List Slot) (pre : List Visit) (v : Visit)
    (hst : ∀ x ∈ pre ++ [v], x.slots = slotsOf x.host) (hl : v.vis = .live)
    (i : Nat) (l : Bool) (c : Nat) (hr : v.slots[i]? = some (.route l c)) (hok : tryRoute l (v.env i) = .ok) :
    ∃ o k, (run [] (pre ++ [v])).getLast? = some o ∧ o.result.outcome = .found k
      ∧ ∃ l' c', v.slots[k]? = some (.route l' c') ∧ tryRoute l' (v.env k) = .ok := by
  obtain ⟨n, h⟩ := live_visitor_last slotsOf pre v hst hl
  obtain ⟨k, hk⟩ := reachable_found v.slots v.env i l c hr hok
  exact ⟨_, k, h, hk, only_published_client v.slots v.env k hk⟩

/-- a visitor whose context is done is never handed a connection (every dial on its behalf fails) … -/
theorem done_visitor_never_connected (slots : List Slot) (env : Nat → Env) (k : Nat) :
    (dialClient slots (effEnv true env)).outcome ≠ .found k := by
  intro h
  obtain ⟨l, c, -, hok⟩ := only_published_client slots _ k h
  simp [effEnv, tryRoute, getConn] at hok

/-- … and it is told not-connected when the hostname has a route (only then: `not_connected_has_route`):
its having left changes neither the not-found nor the lookup-failed answers -/
theorem done_visitor_not_connected (slots : List Slot) (env : Nat → Env) (i : Nat) (l : Bool) (c : Nat)
    (hr : slots[i]? = some (.route l c)) :
    (dialClient slots (effEnv true env)).outcome = .notConnected := by
  apply routes_unreachable_not_connected slots _ i l c hr
  intro j l' c' _ hok
  simp [effEnv, tryRoute, getConn] at hok

/-! ### status frame / remote side -/

/-- **wrong destination rejected**: a proxy stream whose route names another tunnel node (or carries no
usable route) never reaches a client and is answered with a non-OK status. -/
theorem proxy_wrong_destination_rejected (c : Nat) (d : DialRes) :
    (handleProxy (.route false c) d).dialed = none ∧ (handleProxy (.route false c) d).status ≠ 0
      ∧ (handleProxy (.route false c) d).piped = false
      ∧ (handleProxy .bad d).dialed = none ∧ (handleProxy .bad d).status ≠ 0 := by
  simp [handleProxy]

/-- the remote node only ever dials the client named in a route addressed to itself, and pipes only
after that client's stream opened -/
theorem proxy_dials_only_route_client (r : Recv) (d : DialRes) (x : Nat) :
    ((handleProxy r d).dialed = some x → r = .route true x)
      ∧ ((handleProxy r d).piped = true → d = .conn ∧ (handleProxy r d).status = 0 ∧ ∃ c, r = .route true c) := by
  fun_cases handleProxy r d
  case case1 => exact ⟨nofun, nofun⟩        -- no usable route frame
  case case2 => exact ⟨nofun, nofun⟩        -- a route for another node
  case case3 c =>                           -- a route addressed to this node
    simp only [Option.some.injEq, beq_iff_eq]
    exact ⟨fun e => by rw [e], fun e => ⟨e, by rw [e]; rfl, _, rfl⟩⟩

/-- **status round trip**: a remote route served by a correct remote node (`handleProxy` on a route
addressed to it) classifies exactly like a direct dial of the client on that node. -/
theorem proxied_equiv_direct (c : Nat) (d : DialRes) (lf sf : Bool) (st : Option Nat) :
    getConn false ⟨.conn, false, some (handleProxy (.route true c) d).status, lf⟩
      = getConn true ⟨d, sf, st, lf⟩ := by
  cases d <;> simp [getConn, handleProxy, statusOf, decodeStatus]

/-- only status OK opens a proxied connection; NO_DIRECT is the only code counted as "not connected" -/
theorem decodeStatus_spec (n : Nat) :
    (decodeStatus n = .conn ↔ n = 0) ∧ (decodeStatus n = .noDirect ↔ n = 2) := by
  fun_cases decodeStatus n <;> simp_all

/-! ### non-vacuity -/

def envEx : Nat → Env
  | 0 => ⟨.conn, false, some 1, false⟩     -- remote answers UNKNOWN_ERROR
  | 1 => ⟨.err, false, none, false⟩        -- local dial fails hard
  | _ => ⟨.conn, false, some 0, false⟩     -- remote OK

example : dialClient [.route false 11, .route true 22, .route false 33] envEx = ⟨.found 2, [1, 0, 2], []⟩ := by decide +kernel
example : (dialClient [.route false 11, .route true 22, .empty] envEx).outcome = .notConnected := by decide +kernel
example : (dialClient [.empty, .lookupErr, .empty] envEx).outcome = .notFound := by decide +kernel
example : (dialClient [.undecodable, .lookupErr, .lookupErr] envEx).outcome = .lookupFailed := by decide +kernel
-- partial lookup failure without any route (hypotheses of partial_lookup_failure_not_found / no_route_never_connected hold)
example : (∀ s ∈ [Slot.lookupErr, .empty, .undecodable], isRoute s = false) ∧ (∃ s ∈ [Slot.lookupErr, .empty, .undecodable], s = .empty)
    ∧ lookup [.lookupErr, .empty, .undecodable] = .routes []
    ∧ dialClient [.lookupErr, .empty, .undecodable] envEx = ⟨.notFound, [], []⟩ := by decide +kernel
example : (dialClient [.route false 11, .route true 22, .lookupErr] envEx).outcome = .notConnected
    ∧ ∃ (i : Nat) (l : Bool) (c : Nat), [Slot.route false 11, .route true 22, .lookupErr][i]? = some (Slot.route l c) := ⟨by decide +kernel, 0, false, 11, rfl⟩
-- several visitors (hypotheses of visitor_independence / live_visitor_connected hold): a visitor that is
-- already gone, one that leaves during the lookup of another hostname, then a live one for the first hostname
def slotsEx : String → List Slot := fun h => if h = "a" then [.route false 11, .route true 22, .route false 33] else [.empty, .lookupErr, .route true 7]
def visitsEx : List Visit :=
  [⟨"a", slotsEx "a", envEx, .gone⟩, ⟨"b", slotsEx "b", envEx, .leavesInLookup⟩, ⟨"b", slotsEx "b", envEx, .leavesInLookup⟩, ⟨"a", slotsEx "a", envEx, .live⟩]
example : (∀ x ∈ visitsEx, x.slots = slotsEx x.host)
    ∧ run [] visitsEx = [⟨⟨.notConnected, [1, 0, 2], []⟩, 3⟩, ⟨⟨.notConnected, [2], []⟩, 3⟩, ⟨⟨.found 2, [2], []⟩, 0⟩, ⟨⟨.found 2, [1, 0, 2], []⟩, 0⟩] := by
  decide +kernel
example : order [⟨0, false, 1⟩, ⟨1, true, 2⟩, ⟨2, true, 3⟩] = [⟨2, true, 3⟩, ⟨1, true, 2⟩, ⟨0, false, 1⟩] := by decide +kernel
example : handleProxy (.route true 5) .conn = ⟨0, some 5, true⟩ ∧ handleProxy (.route false 5) .conn = ⟨1, none, false⟩ := by decide +kernel

end Specter.C27
