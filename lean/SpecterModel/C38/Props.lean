import SpecterModel.C38.Model
/-!
# C38 — Length-prefixed messages round-trip and respect size bounds
All theorems are for every payload / trailing byte string / bound; the only hypothesis is
`payload.length < 2^32` (Go's `uint32(l)` conversion), stated explicitly.
-/
namespace Specter.C38

theorem be32_length (n : Nat) : (be32 n).length = 4 := rfl

theorem be32_bytes (n : Nat) : ∀ b ∈ be32 n, b < 256 := by
  simp [be32, Nat.mod_lt]

theorem mod_mul_digit (n b c : Nat) : n / b % c * b + n % b = n % (b * c) := by
  rw [Nat.mod_mul, Nat.mul_comm, Nat.add_comm]

theorem digits4 (n b : Nat) :
    n / (b * b * b) % b * (b * b * b) + n / (b * b) % b * (b * b) + n / b % b * b + n % b = n % (b * b * b * b) := by
  rw [← mod_mul_digit n (b * b * b) b, ← mod_mul_digit n (b * b) b, ← mod_mul_digit n b b]
  simp only [Nat.add_assoc]

/-- beyond uint32 the prefix silently wraps (why the hypothesis is needed) -/
theorem be32_wraps (n : Nat) : decode32 (be32 n) = n % 2^32 :=
  digits4 n 256

/-- big-endian size prefix round-trips for every uint32 -/
theorem be32_roundtrip (n : Nat) (h : n < 2^32) : decode32 (be32 n) = n := by
  rw [be32_wraps, Nat.mod_eq_of_lt h]

theorem send_length (p : Bytes) : (send p).length = 4 + p.length := by
  rw [send, List.length_append, be32_length]

theorem take_send (p rest : Bytes) : (send p ++ rest).take LengthSize = be32 p.length := by
  rw [send, List.append_assoc]
  exact List.take_left' (be32_length _)

theorem drop_send (p rest : Bytes) : (send p ++ rest).drop LengthSize = p ++ rest := by
  rw [send, List.append_assoc]
  exact List.drop_left' (be32_length _)

theorem receive_header (check : Nat → Bool) (n : Nat) (body : Bytes) (h : n < 2^32) :
    receive check (be32 n ++ body) =
      if !check n then (.error .tooLarge, body)
      else if body.length < n then (.error .shortBody, [])
      else (.ok (body.take n), body.drop n) := by
  unfold receive LengthSize
  rw [if_neg (by simp [be32]), List.take_left' (be32_length n), List.drop_left' (be32_length n), be32_roundtrip n h]

theorem receive_frame (check : Nat → Bool) (p rest : Bytes) (h : p.length < 2^32) :
    receive check (send p ++ rest) =
      if check p.length then (.ok p, rest) else (.error .tooLarge, p ++ rest) := by
  rw [send, List.append_assoc, receive_header check _ _ h]
  by_cases hc : check p.length = true <;> simp [hc]

theorem receive_send (check : Nat → Bool) (p rest : Bytes) (h : p.length < 2^32) (hc : check p.length = true) :
    receive check (send p ++ rest) = (.ok p, rest) := by
  rw [receive_frame check p rest h, if_pos hc]

/-- **round trip (unbounded `Receive`)** -/
theorem recv_send (p rest : Bytes) (h : p.length < 2^32) :
    unboundedReceive (send p ++ rest) = (.ok p, rest) :=
  receive_send _ p rest h rfl

/-- **round trip (`BoundedReceive`, frame within the bound)** -/
theorem bounded_recv_send (max : Nat) (p rest : Bytes) (h : p.length < 2^32) (hm : p.length ≤ max) :
    boundedReceive max (send p ++ rest) = (.ok p, rest) :=
  receive_send _ p rest h (by simpa using hm)

/-- **bound respected**: a frame longer than the bound is rejected, and the payload is neither read nor
decoded: all of `p ++ rest` is still unread -/
theorem bounded_rejects (max : Nat) (p rest : Bytes) (h : p.length < 2^32) (hm : max < p.length) :
    boundedReceive max (send p ++ rest) = (.error .tooLarge, p ++ rest) := by
  rw [boundedReceive, receive_frame _ p rest h, if_neg (by simpa using hm)]

/-- the rejection does not depend on the decoder at all (it is never consulted) -/
theorem bounded_rejects_without_decoding {μ : Type} (dec : Bytes → Option μ) (max : Nat) (p rest : Bytes)
    (h : p.length < 2^32) (hm : max < p.length) :
    recvMsg dec (fun size => decide (size ≤ max)) (send p ++ rest) = (.error .tooLarge, p ++ rest) := by
  rw [recvMsg, show receive _ _ = _ from bounded_rejects max p rest h hm]
  rfl

/-- **message-level round trip** for any codec with `dec (enc m) = some m` (validated per message type by
the harness): the message is read back identical, trailing bytes intact -/
theorem msg_roundtrip {μ : Type} (enc : μ → Bytes) (dec : Bytes → Option μ) (check : Nat → Bool) (m : μ)
    (rest : Bytes) (hcodec : dec (enc m) = some m) (h : (enc m).length < 2^32)
    (hc : check (enc m).length = true) :
    recvMsg dec check (sendMsg enc m ++ rest) = (.ok m, rest) := by
  unfold recvMsg sendMsg
  rw [receive_send check (enc m) rest h hc]
  simp only [decodeWith, hcodec]

/-- two frames back to back: the second reader gets the second message (framing is self-delimiting) -/
theorem recv_two (a b rest : Bytes) (ha : a.length < 2^32) (hb : b.length < 2^32) :
    unboundedReceive (send a ++ (send b ++ rest)) = (.ok a, send b ++ rest) ∧
    unboundedReceive (send b ++ rest) = (.ok b, rest) :=
  ⟨recv_send a _ ha, recv_send b rest hb⟩

/-- **truncated streams**: fewer than 4 bytes is an error (never a message), and the stream is drained … -/
theorem truncated_header (check : Nat → Bool) (s : Bytes) (h : s.length < 4) :
    receive check s = (.error .noHeader, []) := by
  simp [receive, LengthSize, h]

/-- … and so is a header that passes the size check but is followed by fewer payload bytes than it announces -/
theorem truncated_body (check : Nat → Bool) (s : Bytes) (h : 4 ≤ s.length)
    (hc : check (decode32 (s.take 4)) = true) (hb : s.length < 4 + decode32 (s.take 4)) :
    receive check s = (.error .shortBody, []) := by
  simp [receive, LengthSize, Nat.not_lt.2 h, hc, Nat.sub_lt_left_of_lt_add h hb]

/-- every proper prefix of a frame is an error -/
theorem truncated_frame_errors (p : Bytes) (k : Nat) (h : p.length < 2^32) (hk : k < (send p).length) :
    ∃ e, unboundedReceive ((send p).take k) = (.error e, []) := by
  rw [send_length] at hk
  by_cases h4 : k < 4
  · exact ⟨.noHeader, truncated_header _ _ (Nat.lt_of_le_of_lt (List.length_take_le ..) h4)⟩
  · have h4 := Nat.le_of_not_lt h4
    have : (send p).take k = be32 p.length ++ p.take (k - 4) := by
      rw [send, List.take_append, List.take_of_length_le (by rwa [be32_length]), be32_length]
    have hb : (p.take (k - 4)).length < p.length :=
      Nat.lt_of_le_of_lt (List.length_take_le ..) (Nat.sub_lt_left_of_lt_add h4 hk)
    exact ⟨.shortBody, by rw [unboundedReceive, this, receive_header _ _ _ h, if_neg (by simp), if_pos hb]⟩

/-- success implies the stream really started with a complete frame (no message out of thin air) -/
theorem receive_ok_inv (check : Nat → Bool) (s p rest : Bytes) (h : receive check s = (.ok p, rest)) :
    s = s.take 4 ++ p ++ rest ∧ p.length = decode32 (s.take 4) ∧ check p.length = true := by
  revert h
  fun_cases receive check s
  case case4 h4 ms body hc hb =>      -- the one exit that returns a payload
    rintro ⟨⟩
    have hlen : (body.take ms).length = ms := by
      rw [List.length_take, Nat.min_eq_left (Nat.le_of_not_lt hb)]
    refine ⟨?_, hlen, by rw [hlen]; simpa using hc⟩
    rw [List.append_assoc, List.take_append_drop]
    exact (List.take_append_drop ..).symm
  all_goals rintro ⟨⟩

/-! non-vacuity -/
example : send [1, 2, 3] = [0, 0, 0, 3, 1, 2, 3] := by decide +kernel
example : unboundedReceive (send [1, 2, 3] ++ [9, 9]) = (.ok [1, 2, 3], [9, 9]) := by rfl
example : boundedReceive 2 (send [1, 2, 3] ++ [9, 9]) = (.error .tooLarge, [1, 2, 3, 9, 9]) := by rfl
example : boundedReceive 3 (send [1, 2, 3] ++ [9, 9]) = (.ok [1, 2, 3], [9, 9]) := by rfl
example : unboundedReceive [0, 0, 0, 3, 1, 2] = (.error .shortBody, []) := by rfl
example : be32 70000 = [0, 1, 17, 112] ∧ decode32 (be32 70000) = 70000 := by decide +kernel

end Specter.C38
