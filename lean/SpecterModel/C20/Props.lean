import SpecterModel.C20.Model
import SpecterModel.C21.Props
/-!
# C20 — The append-only log store recovers from a crash at any point
-/
namespace Specter.Aof

/-- the crash-point semantics computes exactly the writer-loop iteration of the C21 model -/
theorem stepG_store (pre : Bool) (s : Store) (n : Nat) (mu : Mutation) :
    (stepG pre s n mu).2 = submitG pre s mu := by
  unfold stepG submitG
  cases (if pre = true then check s.mem mu else none) with
  | some e => rfl
  | none =>
    simp only
    cases handle s.mem mu <;> rfl

/-- what the property demands of one crash point: reopening succeeds and yields the reference state of
a prefix of the issued mutations that contains every acknowledged one -/
def Good (hist : List Mutation) (pt : Pt) : Prop :=
  ∃ p st, pt.acked ≤ p ∧ p ≤ pt.issued ∧ p ≤ hist.length ∧
    recover pt.disk = .ok st ∧ st.mem = specState Mem.empty (hist.take p)

theorem recover_seg (l : List Mutation) : recover { seg := some l } = reopenLog l := rfl

theorem specState_snoc (m : Mem) (l : List Mutation) (mu : Mutation) :
    specState m (l ++ [mu]) = specStep (specState m l) mu := by
  simp [specState, List.foldl_append]

theorem good_of_log {done rest : List Mutation} {pt : Pt}
    (hd : pt.disk = { seg := some (runHist Store.init done).log })
    (ha : pt.acked ≤ done.length) (hi : done.length ≤ pt.issued) : Good (done ++ rest) pt := by
  refine ⟨done.length, _, ha, hi, by simp, by rw [hd, recover_seg]; exact clean_restart_reproduces done, ?_⟩
  rw [List.take_left' rfl]; exact mem_is_spec done

/-- the rollback is unreachable on a well-formed mutation, so a crash point shows the log before or after the
iteration: no END file, no removed segment -/
theorem stepG_pts (s : Store) (n : Nat) (mu : Mutation) (hwf : mu.WF) :
    ∀ pt ∈ (stepG true s n mu).1, pt.issued = n + 1 ∧
      (pt.disk = { seg := some s.log } ∧ pt.acked = n ∨
       pt.disk = { seg := some (stepG true s n mu).2.1.log } ∧ n ≤ pt.acked ∧ pt.acked ≤ n + 1) := by
  unfold stepG
  intro pt hpt
  cases hchk : check s.mem mu with
  | some e =>
    simp only [hchk, if_true, List.mem_cons, List.not_mem_nil, or_false] at hpt
    rcases hpt with rfl | rfl
    · exact ⟨rfl, .inl ⟨rfl, rfl⟩⟩
    · exact ⟨rfl, .inr ⟨rfl, Nat.le_succ n, Nat.le_refl _⟩⟩
  | none =>
    obtain ⟨m', hh⟩ := rollback_unreachable s.mem mu hwf hchk
    simp only [hchk, if_true, hh, List.mem_cons, List.not_mem_nil, or_false] at hpt ⊢
    rcases hpt with rfl | rfl | rfl
    · exact ⟨rfl, .inl ⟨rfl, rfl⟩⟩
    · exact ⟨rfl, .inr ⟨rfl, Nat.le_refl _, Nat.le_succ n⟩⟩
    · exact ⟨rfl, .inr ⟨rfl, Nat.le_succ n, Nat.le_refl _⟩⟩

theorem crash_core (rest : List Mutation) : ∀ (done : List Mutation), (∀ mu ∈ rest, mu.WF) →
    ∀ pt ∈ ptsFrom true (runHist Store.init done) done.length rest, Good (done ++ rest) pt := by
  induction rest with
  | nil => intro done _ pt hpt; cases hpt
  | cons mu rest ih =>
    intro done hwf pt hpt
    have hnext : (stepG true (runHist Store.init done) done.length mu).2.1 = runHist Store.init (done ++ [mu]) := by
      rw [stepG_store, runHist_append]; rfl
    rw [List.append_cons]
    rcases List.mem_append.1 hpt with hpt | hpt
    · obtain ⟨hi, ⟨hd, ha⟩ | ⟨hd, ha, ha'⟩⟩ := stepG_pts _ _ mu (hwf mu List.mem_cons_self) pt hpt
      · rw [List.append_assoc]
        exact good_of_log hd (Nat.le_of_eq ha) (hi ▸ Nat.le_succ _)
      · rw [hnext] at hd
        exact good_of_log hd (by rw [List.length_append]; exact ha') (by rw [List.length_append, hi]; exact Nat.le_refl _)
    · rw [hnext] at hpt
      exact ih (done ++ [mu]) (fun x hx => hwf x (List.mem_cons_of_mem _ hx)) pt (by rw [List.length_append]; exact hpt)

/-- **C20.** For every history (of well-formed mutations) and every crash point of the code with the pre-check,
reopening succeeds and the recovered data equal the reference state of some prefix of the issued
mutations that contains every acknowledged mutation; rejected mutations contribute nothing
(`specState` skips them). -/
theorem crash_recovers (hist : List Mutation) (hwf : ∀ mu ∈ hist, mu.WF) :
    ∀ pt ∈ crashPts true hist, Good hist pt := by
  intro pt hpt
  rcases List.mem_cons.1 hpt with rfl | hpt
  · exact good_of_log (done := []) rfl (Nat.le_refl _) (Nat.le_refl _)
  · exact crash_core hist [] hwf pt hpt

/-- executable form: every crash image of the code with the pre-check reopens -/
theorem crash_images_reopen (hist : List Mutation) (hwf : ∀ mu ∈ hist, mu.WF) :
    (crashPts true hist).all recovers = true := by
  rw [List.all_eq_true]
  intro pt hpt
  obtain ⟨p, st, _, _, _, hst, _⟩ := crash_recovers hist hwf pt hpt
  simp [recovers, hst]

/-! ### The regression the repair protects against -/

def conflictWitness : List Mutation :=
  [{ type := tAppend, key := [1], value := [7] }, { type := tAppend, key := [1], value := [7] }]

/-- Before the repair (log first, roll back on rejection) the theorem is false: after the `write(2)` of
the rejected duplicate `PREFIX_APPEND` and before the END file of the rollback exists, the directory
holds an entry that replay cannot apply, so `aof.New` fails (forever). -/
theorem prefix_old_violates :
    ∃ pt ∈ crashPts false conflictWitness, recovers pt = false ∧
      pt.disk = { seg := some conflictWitness } ∧ pt.issued = 2 ∧ pt.acked = 1 := by
  decide +kernel

/-- … and that window is the only bad crash point of the witness: once the END file exists, `wal.Open`
completes the truncation -/
theorem prefix_old_window_only :
    (crashPts false conflictWitness).map recovers =
      [true, true, true, true, true, false, true, true, true, true] := by decide +kernel

theorem proj_mono (t : Nat) {l₁ l₂ : List Req} (h : l₁ <+: l₂) : proj t l₁ <+: proj t l₂ :=
  (h.filter _).map _

/-- **C20 with concurrent callers.** Whatever the callers' programs and whatever order `h` the writer
received their requests in, at every crash point reopening succeeds and the recovered data are the
reference state of a linearisation `h.take p` of issued requests (`p ≤ issued`) which holds, for every
caller `t`, a prefix of `t`'s program that contains all of `t`'s acknowledged requests; rejected requests
contribute nothing (`specState`). -/
theorem crash_recovers_concurrent (h : List Req) (hwf : ∀ r ∈ h, r.2.WF) :
    ∀ pt ∈ crashPtsC h, ∃ p st, pt.acked ≤ p ∧ p ≤ pt.issued ∧ p ≤ h.length ∧
      recover pt.disk = .ok st ∧ st.mem = specState Mem.empty (muts (h.take p)) ∧
      ∀ t, proj t (h.take pt.acked) <+: proj t (h.take p) ∧ proj t (h.take p) <+: proj t h := by
  intro pt hpt
  obtain ⟨p, st, hap, hpi, hpl, hrec, hmem⟩ := crash_recovers (muts h) (List.forall_mem_map.2 hwf) pt hpt
  refine ⟨p, st, hap, hpi, by simpa [muts] using hpl, hrec, ?_, fun t =>
    ⟨proj_mono t (List.take_prefix_take_left hap), proj_mono t (List.take_prefix p h)⟩⟩
  rw [hmem]; simp [muts, List.map_take]

theorem crash_images_reopen_concurrent (h : List Req) (hwf : ∀ r ∈ h, r.2.WF) :
    (crashPtsC h).all recovers = true :=
  crash_images_reopen (muts h) (List.forall_mem_map.2 hwf)

/-- the writer iteration of the code as it is: the rejection test reads the writer's own memory -/
theorem stepSeen_current (s : Store) (n : Nat) (mu : Mutation) :
    stepSeen s.mem s n mu = stepG true s n mu := by
  unfold stepSeen stepG
  cases check s.mem mu <;> rfl

/-- Regression: a rejection test evaluated on memory that is one applied request behind (two callers
issue the same `PREFIX_APPEND`, both are tested before the writer applies the first) lets the duplicate
into the log; the crash point after its `write(2)` leaves a log that `aof.New` rejects. -/
theorem stale_check_violates :
    let s1 := (submit Store.init conflictWitness[0]).1
    (∃ pt ∈ (stepSeen Mem.empty s1 1 conflictWitness[0]).1, recovers pt = false ∧
      pt.disk = { seg := some conflictWitness } ∧ pt.issued = 2 ∧ pt.acked = 1) ∧
    ((stepSeen s1.mem s1 1 conflictWitness[0]).1).all recovers = true := by
  decide +kernel

/-! ### Non-vacuity -/

example : (crashPts true conflictWitness).length = 6 := by decide +kernel
example : (crashPts true conflictWitness).all recovers = true := by decide +kernel
example : ∀ mu ∈ exHist, mu.WF := by decide +kernel
example : (crashPts true exHist).length = 18 ∧
    (crashPts true exHist).getLast? = some ⟨{ seg := some (runHist Store.init exHist).log }, 6, 6⟩ := by decide +kernel

def concWitness : List Req :=
  [(0, { type := tAppend, key := [1], value := [7] }), (1, { type := tAppend, key := [1], value := [7] }),
   (1, { type := tPut, key := [2], value := [9] }), (0, { type := tRemove, key := [1], value := [7] })]
example : ∀ r ∈ concWitness, r.2.WF := by decide +kernel
example : (crashPtsC concWitness).length = 12 ∧ proj 1 concWitness = [concWitness[1].2, concWitness[2].2] := by decide +kernel

end Specter.Aof
