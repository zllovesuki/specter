import SpecterModel.C02.Props
/-!
# C02 — step functions of the membership protocol on arbitrary nets

What the proofs about `Join` and `Leave` need beyond `C02/Props.lean`: `stabilize` as `Net.upd`s when the head of
the successor list reports a closer live predecessor or has departed; a lookup never leaves a pointer-closed set,
so `fixFinger` writes only the caller's finger table, and only nodes of such a set (`fixFinger_spec`).
-/
namespace Specter.C02
open Specter.Ring Specter.C01 Specter.C03 Specter.C09

/-- `stabilize` at `n` when the first successor `s` reports a live predecessor `x` strictly inside `(n, s)`
that already names `n`: `n` adopts `x` as first successor, nothing else changes. -/
theorem stabilize_adopt (net : Net) (n s x : Nat) (nd nds ndx : Node) (hg : net.get n = some nd)
    (hh : nd.succs.head? = some s) (hgs : net.get s = some nds)
    (hcs : checkNodeState nds false = none) (hps : nds.pred = some x)
    (hb : between n x s false = true) (hxn : x ≠ n) (hgx : net.get x = some ndx)
    (hcx : checkNodeState ndx false = none) (hpx : ndx.pred = some n) :
    ∃ l, l.head? = some x ∧ stabilize net n = net.upd n (fun nd => { nd with succs := l }) := by
  obtain ⟨rest, hl⟩ := List.head?_eq_some_iff.mp hh
  exact ⟨_, cutAfterSelf_head n _ x (makeSuccList_head x ndx.succs succEntries),
    stabilize_of_list_back net n x nd ndx ndx.succs hg
      (by rw [hl, stabilizeList]
          simp [getPredSuccs_live net s nds hgs hcs, hps, hb, getPredSuccs_live net x ndx hgx hcx]) hgx hpx⟩

/-- `stabilize` at `n` whose first successor `d` has departed (present, but it no longer answers) and whose
second entry `s` is live and still names `d`: `n` adopts `s` and notifies it; `s`, whose old predecessor fails
the ping, adopts `n`. -/
theorem stabilize_dead_head (net : Net) (n d s : Nat) (nd ndd nds : Node) (rest : List Nat)
    (hg : net.get n = some nd) (hcn : checkNodeState nd true = none) (hl : nd.succs = d :: s :: rest)
    (hdn : d ≠ n)
    (hgd : net.get d = some ndd) (hdd : ∀ b, checkNodeState ndd b ≠ none)
    (hgs : net.get s = some nds) (hcs : checkNodeState nds false = none) (hpd : nds.pred = some d)
    (hb : between n d s false = true) :
    stabilize net n =
      (net.upd n (fun x => { x with succs := cutAfterSelf n (makeSuccList s nds.succs succEntries) })).upd s
        (fun x => { x with surrogate := if n == s then none else some n, pred := some n }) := by
  have hsome : ∀ b, (checkNodeState ndd b).isSome = true := fun b => Option.isSome_iff_ne_none.mpr (hdd b)
  have hping : ping net d = false := by
    unfold ping; simp [hgd, hsome]
  have hsilent : getPredSuccs net d = none := by
    unfold getPredSuccs; simp [hgd, hsome]
  rw [stabilize_of_list net n s nd nds.succs hg
    (by rw [hl, stabilizeList]; simp only [hsilent]
        rw [stabilizeList]; simp [getPredSuccs_live net s nds hgs hcs, hpd, hb, hsilent])]
  simp only [hcn, Option.isNone_none, if_true]
  apply notify_adopt _ s n d ?_ hdn ?_
  · rw [get_upd_map (fun x => (checkNodeState x false, x.pred)), hgs, Option.map_some, hcs, hpd]
    exact fun _ _ => rfl
  · rw [ping_upd]
    · exact hping
    · exact fun _ => rfl

/-- `P` is closed under the pointers a lookup follows (first successor and fingers of live nodes) -/
def ClosedP (net : Net) (P : Nat → Prop) : Prop :=
  ∀ n, P n → ∀ nd, net.get n = some nd → checkNodeState nd false = none →
    (∀ s, nd.succs.head? = some s → P s) ∧ (∀ f, some f ∈ nd.fingers → P f)

/-- A lookup that starts inside a pointer-closed set `P` only reads nodes of `P` (a net that agrees with `net`
on `P` gives the same answer), and what it finds is in `P`. -/
theorem findSucc_closed (net net1 : Net) (P : Nat → Prop) (hcl : ClosedP net P)
    (hag : ∀ n, P n → net1.get n = net.get n) (key fuel n : Nat) (hn : P n) :
    findSucc net1 fuel n key = findSucc net fuel n key ∧
      ∀ o, findSucc net fuel n key = .found o → P o := by
  fun_induction findSucc net fuel n key with
  | case1 => exact ⟨rfl, fun _ h => nomatch h⟩  -- out of fuel
  | case2 fuel n key hg =>  -- unknown node
    exact ⟨findSucc_none net1 _ n key ((hag n hn).trans hg), fun _ h => nomatch h⟩
  | case3 fuel n key nd hg e hc =>  -- the node does not answer
    exact ⟨findSucc_dead net1 _ n key nd e ((hag n hn).trans hg) hc, fun _ h => nomatch h⟩
  | case4 fuel n key nd hg hc hp =>  -- the key is in the node's own range
    exact ⟨findSucc_pred net1 _ n key nd ((hag n hn).trans hg) hc hp, fun o h => Res.found.inj h ▸ hn⟩
  | case5 fuel n key nd hg hc hp hs =>  -- no successor
    exact ⟨findSucc_nosucc net1 _ n key nd ((hag n hn).trans hg) hc (Bool.eq_false_iff.mpr hp) hs,
      fun _ h => nomatch h⟩
  | case6 fuel n key nd hg hc hp s hs hb =>  -- the successor owns the key
    exact ⟨findSucc_succ_found net1 _ n key s nd ((hag n hn).trans hg) hc (Bool.eq_false_iff.mpr hp) hs hb,
      fun o h => Res.found.inj h ▸ (hcl n hn nd hg hc).1 _ hs⟩
  | case7 fuel n key nd hg hc hp s hs hb ih =>  -- forwarded
    rw [findSucc_hop net1 _ n key s nd ((hag n hn).trans hg) hc (Bool.eq_false_iff.mpr hp) hs
      (Bool.eq_false_iff.mpr hb)]
    exact ih (hop_mem n key s nd.fingers ((hcl n hn nd hg hc).1 _ hs) (hcl n hn nd hg hc).2)

theorem stable_closed (net : Net) (hs : Stable net) : ClosedP net (Mem net) := by
  intro n _ nd hg hc
  exact ⟨fun t ht => (hs.succ_first hg hc ht).1, hs.fingers n nd hg hc⟩

/-- `net'` is `net` except that finger entries of `n` may have been overwritten by `P`-nodes -/
structure FingersOnly (net net' : Net) (n : Nat) (P : Nat → Prop) : Prop where
  other : ∀ m, m ≠ n → net'.get m = net.get m
  absent : net.get n = none → net'.get n = none
  self : ∀ x, net.get n = some x → ∃ fs, net'.get n = some { x with fingers := fs } ∧
      ∀ f, some f ∈ fs → some f ∈ x.fingers ∨ P f

theorem FingersOnly.refl (net : Net) (n : Nat) (P : Nat → Prop) : FingersOnly net net n P :=
  ⟨fun _ _ => rfl, fun h => h, fun x hx => ⟨x.fingers, hx, fun _ hf => Or.inl hf⟩⟩

theorem FingersOnly.get {net net' : Net} {n : Nat} {P : Nat → Prop} (h : FingersOnly net net' n P) :
    ∃ F : List (Option Nat), (∀ f, some f ∈ F → (∃ x, net.get n = some x ∧ some f ∈ x.fingers) ∨ P f) ∧
      ∀ m, net'.get m = (net.upd n fun x => { x with fingers := F }).get m := by
  cases hx : net.get n with
  | none =>
    refine ⟨[], fun f hf => by simp at hf, fun m => ?_⟩
    rw [get_upd, hx]
    split
    · rename_i e; subst e; exact h.absent hx
    · rename_i e; exact h.other m e
  | some x =>
    obtain ⟨fs, hfs, hP⟩ := h.self x hx
    refine ⟨fs, fun f hf => (hP f hf).imp_left fun h1 => ⟨x, rfl, h1⟩, fun m => ?_⟩
    rw [get_upd, hx]
    split
    · rename_i e; subst e; exact hfs
    · rename_i e; exact h.other m e

theorem FingersOnly.map {net net' : Net} {n : Nat} {P : Nat → Prop} (h : FingersOnly net net' n P)
    {α : Type} (g : Node → α) (hg : ∀ x fs, g { x with fingers := fs } = g x) (m : Nat) :
    (net'.get m).map g = (net.get m).map g := by
  obtain ⟨F, _, hget⟩ := h.get
  rw [hget m]
  exact get_upd_map g net n m _ fun x _ => hg x F

theorem FingersOnly.node {net net' : Net} {n : Nat} {P : Nat → Prop} (h : FingersOnly net net' n P)
    (m : Nat) (x' : Node) (hx' : net'.get m = some x') :
    ∃ x, net.get m = some x ∧ x' = { x with fingers := x'.fingers } ∧
      ∀ f, some f ∈ x'.fingers → some f ∈ x.fingers ∨ P f := by
  by_cases e : m = n
  · subst e
    cases hx : net.get m with
    | none => rw [h.absent hx] at hx'; simp at hx'
    | some x =>
      obtain ⟨fs, hfs, hP⟩ := h.self x hx
      rw [hfs] at hx'; injection hx' with hx'; subst hx'
      exact ⟨x, rfl, rfl, hP⟩
  · exact ⟨x', (h.other m e) ▸ hx', rfl, fun _ hf => Or.inl hf⟩

theorem FingersOnly.closed {net net' : Net} {n : Nat} {P : Nat → Prop} (h : FingersOnly net net' n P)
    (hcl : ClosedP net P) : ClosedP net' P := by
  intro m hm nd hg hc
  obtain ⟨x, hx, e, hP⟩ := h.node m nd hg
  obtain ⟨h1, h2⟩ := hcl m hm x hx (by rw [e] at hc; exact hc)
  exact ⟨by rw [e]; exact h1, fun f hf => (hP f hf).elim (h2 f) id⟩

theorem fixK_fingersOnly (net0 net : Net) (n k : Nat) (P : Nat → Prop) (h : FingersOnly net0 net n P)
    (hcl : ClosedP net0 P) (hn : P n) : FingersOnly net0 (fixK net n k) n P := by
  unfold fixK
  cases hf : findSucc net FUEL n (moduloSum n (2^(k-1))) with
  | err e => exact h
  | found f =>
    have hPf : P f := (findSucc_closed net net P (h.closed hcl) (fun _ _ => rfl) _ _ _ hn).2 f hf
    simp only
    refine ⟨fun m hm => ?_, fun hg => ?_, fun x hx => ?_⟩
    · rw [get_upd_other _ _ _ _ hm]; exact h.other m hm
    · rw [get_upd_same, h.absent hg]; rfl
    · obtain ⟨fs, hfs, hP⟩ := h.self x hx
      refine ⟨fs.set (k-1) (some f), by rw [get_upd_same, hfs]; rfl, fun g hg => ?_⟩
      rcases List.mem_or_eq_of_mem_set hg with h1 | h1
      · exact hP g h1
      · injection h1 with h1; subst h1; exact Or.inr hPf

/-- **`fixFinger` only writes fingers, and only nodes of a pointer-closed set.** -/
theorem fixFinger_spec (net : Net) (n : Nat) (P : Nat → Prop) (hcl : ClosedP net P) (hn : P n) :
    FingersOnly net (fixFinger net n) n P := by
  unfold fixFinger
  exact List.foldlRecOn (motive := fun net' => FingersOnly net net' n P) _ _ (FingersOnly.refl net n P)
    fun net' h i _ => fixK_fingersOnly net net' n (i+1) P h hcl hn

end Specter.C02
