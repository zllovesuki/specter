import SpecterModel.C02.Steps
import SpecterModel.C06.Props
/-!
# C02 / C03 — a completed graceful `Join` maps a stable quiescent ring to a stable quiescent ring

`Stable ∧ Quiescent` (C01 / C03) is an INDUCTIVE invariant of sequential graceful joins, not only a fixpoint of
the repair tasks: `join_preserves_stable`, over join sequences `joins_preserve_stable`; the join does succeed when
lookups complete: `join_succeeds`. Not covered: interleaved (concurrent) membership changes, crashes.

The hand-off itself checks `between prev j s false` with `prev = s.pred`; on a stable ring this makes the serving
node `s` the owner of `j`, whatever the route was (`joinBegin_ctx`, `handOff_node_is_owner`). From there the proof
follows `Join` step by step (`joinBegin`, `joinTasks`, `joinAdvise`, `joinRelease`) and carries along a description
of the net relative to the ring before the join (`Shape`); `shape_final` reads `Stable ∧ Quiescent` off the last one
(`Stable` by `C01.Stable.insert`).

Nets may contain duplicate keys and departed / crashed / never-started nodes; every statement is about
`Net.get`, so none of that matters. Successor-list TAILS are unconstrained (as in `Stable`).
-/
namespace Specter.C02
open Specter.Ring Specter.C01 Specter.C03 Specter.C09 Specter.C08

theorem requestToJoin_ok (net : Net) (fuel p j : Nat) (net' : Net) (v : Nat × List Nat)
    (h : requestToJoin net fuel p j = (net', .ok v)) :
    ∃ s nd0, net.get s = some nd0 ∧ nd0.crashed = false ∧ handOff net s j = (net', .ok v) := by
  fun_induction requestToJoin net fuel p j with
  | case1 | case2 | case3 | case4 | case5 => cases h  -- the request fails
  | case6 => rename_i ih; exact ih h  -- forwarded
  | case7 fuel s j nd0 hg hcr => exact ⟨s, nd0, hg, by simpa using hcr, h⟩  -- served here

/-- a node without its store (the key hand-off only changes stores) -/
def strip (x : Node) : Node := { x with store := [] }

theorem upd_strip (net : Net) (n m : Nat) (f : Node → Node) (hf : ∀ x, strip (f x) = strip x) :
    ((net.upd n f).get m).map strip = (net.get m).map strip :=
  get_upd_map strip net n m f (fun x _ => hf x)

/-- `s` is a live member of the stable quiescent ring `net`, `prev` its predecessor, and the
(non-member) joiner `j` lies strictly between them -/
structure Ctx (net : Net) (j s prev : Nat) : Prop where
  hs : Stable net
  hq : Quiescent net
  hj : j < M
  hnj : ¬ Mem net j
  hsm : Mem net s
  hsp : ∀ y, net.get s = some y → y.pred = some prev
  hb : between prev j s false = true

theorem Ctx.pred {net : Net} {j s prev : Nat} (c : Ctx net j s prev) :
    Mem net prev ∧ ∀ m, Mem net m → cw s prev ≤ cw m prev := by
  obtain ⟨y, hg, hc⟩ := c.hsm
  exact c.hs.pred_first hg hc (c.hsp y hg)

theorem Ctx.prevMem {net : Net} {j s prev : Nat} (c : Ctx net j s prev) : Mem net prev := c.pred.1

theorem Ctx.sj {net : Net} {j s prev : Nat} (c : Ctx net j s prev) : s ≠ j :=
  fun e => c.hnj (e ▸ c.hsm)

theorem Ctx.cw_j {net : Net} {j s prev : Nat} (c : Ctx net j s prev) : cw j prev < cw s prev :=
  (between_open_iff_cw prev j s (c.hs.lt prev c.prevMem) c.hj (c.hs.lt s c.hsm)).mp c.hb

theorem Ctx.pj {net : Net} {j s prev : Nat} (c : Ctx net j s prev) : prev ≠ j :=
  fun e => c.hnj (e ▸ c.prevMem)

theorem Ctx.prevHead {net : Net} {j s prev : Nat} (c : Ctx net j s prev) :
    ∀ y, net.get prev = some y → y.succs.head? = some s := by
  intro y hgy
  obtain ⟨ys, hgs, hcs⟩ := c.hsm
  exact pred_succ_inverse net c.hs s prev ys y hgs hcs (c.hsp ys hgs) hgy (live_of_mem c.prevMem hgy)

/-- The net `net'` in the middle of the join of `j` between `prev` and `s`, described relative to the
ring `net` before the join: the joiner has state `stJ`, predecessor `prev`, first successor `s`; `s` has
state `stS`, predecessor and surrogate `j`; the first successor of `prev` is `hp` (`s` before the
advisory, `j` after); every other field that `Stable`/`Quiescent` speak about is as in `net`; fingers of
live nodes name old members or `j`. -/
structure Shape (net net' : Net) (j s prev : Nat) (stJ stS : St) (hp : Nat) : Prop where
  jnode : ∃ x, net'.get j = some x ∧ x.state = stJ ∧ x.crashed = false ∧ x.pred = some prev ∧
      x.succs.head? = some s ∧ x.surrogate = none ∧
      (x.joinLocals = none ∨ x.joinLocals = some (prev, some s))
  old : ∀ m, m ≠ j → ∀ y, net.get m = some y → ∃ x, net'.get m = some x ∧ x.crashed = y.crashed ∧
      x.state = (if m = s then stS else y.state) ∧ x.pred = (if m = s then some j else y.pred) ∧
      x.surrogate = (if m = s then some j else y.surrogate) ∧
      x.succs.head? = (if m = prev then some hp else y.succs.head?)
  absent : ∀ m, m ≠ j → net.get m = none → net'.get m = none
  fingers : ∀ m x, net'.get m = some x → checkNodeState x false = none →
      ∀ f, some f ∈ x.fingers → Mem net f ∨ f = j

/-- A successful first half of `Join` on a stable quiescent ring, read backwards: the joiner was Inactive, hence
no member; the request was served by a live member `s` whose predecessor `prev` has `j` strictly between them; the
keys of `(prev, j]` were handed up (`netT`); then the pointers of `s` and of `j` were set. -/
theorem joinBegin_ctx (net : Net) (hs : Stable net) (hq : Quiescent net) (j peer : Nat) (hj : j < M)
    (ndj : Node) (hgj : net.get j = some ndj) (net3 : Net) (h : joinBegin net j peer = (net3, none)) :
    ∃ s prev nds netT, Ctx net j s prev ∧ net.get s = some nds ∧ checkNodeState nds false = none ∧
      transferUp (net.upd j fun nd => { nd with state := .joining }) s j prev nds.store = some netT ∧
      net3 = (netT.upd s fun nd => { nd with state := .transferring, pred := some j, surrogate := some j }).upd j
        fun nd => { nd with succs := makeSuccList s nds.succs succEntries, pred := some prev,
                            joinLocals := some (prev, some s) } := by
  revert h
  fun_cases joinBegin net j peer with
  | case1 | case2 | case3 => rintro ⟨⟩  -- joiner unknown, not Inactive, request failed
  | case4 nd hg hin netJ n2 prev succs hr =>
    intro h
    rw [hgj] at hg; injection hg with hg; subst hg
    obtain ⟨s, nd0, hg1s, hcr0, hho⟩ := requestToJoin_ok _ _ _ _ _ _ hr
    obtain ⟨nds, prev', netT, hg, hact, hpred, hbt, htr, rfl, hv⟩ := handOff_ok _ _ _ _ _ hho
    obtain ⟨rfl, rfl⟩ := Prod.mk.inj hv
    -- the serving node is Active, the joiner Joining by now
    have hsj : s ≠ j := by
      intro e; subst e
      rw [get_upd_same, hgj] at hg; injection hg with hg; subst hg; simp at hact
    rw [get_upd_other _ _ _ _ hsj] at hg
    rw [get_upd_other _ _ _ _ hsj, hg] at hg1s; injection hg1s with e0; subst e0
    have hcs : checkNodeState nds false = none := by simp [checkNodeState, hcr0, hact]
    refine ⟨s, prev, nds, netT, ⟨hs, hq, hj, not_mem_of_inactive hgj (by simpa using hin), ⟨nds, hg, hcs⟩,
      fun y hy => by rw [hg] at hy; injection hy with hy; subst hy; exact hpred, hbt⟩, hg, hcs, htr, ?_⟩
    rw [← (Prod.mk.inj h).1, makeSuccList_head]

/-- **After `joinBegin`.** A successful first half of `Join` on a stable quiescent ring was served by a
live member `s` whose predecessor `prev` has the joiner strictly between them; `s` is Transferring with
predecessor `j`, and `j` is Joining with predecessor `prev` and first successor `s`. -/
theorem shape_begin (net : Net) (hs : Stable net) (hq : Quiescent net) (j peer : Nat) (hj : j < M)
    (ndj : Node) (hgj : net.get j = some ndj) (hcr : ndj.crashed = false) (hsur : ndj.surrogate = none)
    (hfin : ∀ f, some f ∈ ndj.fingers → Mem net f) (net3 : Net)
    (h : joinBegin net j peer = (net3, none)) :
    ∃ s prev, Ctx net j s prev ∧ Shape net net3 j s prev .joining .transferring s := by
  obtain ⟨s, prev, nds, netT, c, hgs, hcs, htr, e3⟩ := joinBegin_ctx net hs hq j peer hj ndj hgj net3 h
  refine ⟨s, prev, c, ?_⟩
  have hjs : j ≠ s := Ne.symm c.sj
  -- `joinBegin` node by node: its three updates and, between the first and the second, the two sides of the key transfer
  have key : ∀ m, net3.get m = (net.get m).map fun y =>
      if m = j then
        { y with state := .joining, store := importEntries y.store (rangeKeys nds.store prev j),
                 succs := makeSuccList s nds.succs succEntries, pred := some prev, joinLocals := some (prev, some s) }
      else if m = s then
        { y with store := removeKeys y.store (rangeKeys nds.store prev j), state := .transferring, pred := some j,
                 surrogate := some j }
      else y := by
    intro m
    -- `get_upd` and `handOver_get` turn `net3.get m` into nested `if`s over `net.get j`, `net.get s`, `net.get m`; in each
    -- case of the split on `m = j`, `m = s` that is one `map` over `net.get m`
    simp only [e3, get_upd, C05.handOver_get _ _ s j _ htr]
    by_cases e1 : m = j
    · subst e1; cases net.get m <;> simp [hjs]
    · by_cases e2 : m = s
      · subst e2; cases net.get m <;> simp [e1]
      · cases net.get m <;> simp [e1, e2]
  constructor
  · refine ⟨_, by rw [key j, hgj, Option.map_some, if_pos rfl], ?_⟩
    exact ⟨rfl, hcr, rfl, makeSuccList_head _ _ _, hsur, Or.inr rfl⟩
  · intro m hm y hy
    have hhd : y.succs.head? = if m = prev then some s else y.succs.head? := by
      split
      · rename_i e'; subst e'; exact c.prevHead y hy
      · rfl
    refine ⟨_, by rw [key m, hy, Option.map_some, if_neg hm], ?_⟩
    by_cases hms : m = s
    · subst hms; simpa using hhd
    · simpa [hms] using hhd
  · intro m _ hy
    rw [key m, hy]; rfl
  · intro m x hx hcx f hf
    left
    obtain ⟨y, hy, rfl⟩ := Option.map_eq_some_iff.mp ((key m).symm.trans hx)
    by_cases hmj : m = j
    · subst hmj
      rw [hgj] at hy; cases hy
      exact hfin f (by simpa using hf)
    · by_cases hms : m = s
      · subst hms
        rw [hgs] at hy; cases hy
        exact hs.fingers m nds hgs hcs f (by simpa [hmj] using hf)
      · simp only [hmj, hms, ↓reduceIte] at hcx hf
        exact hs.fingers m y hy hcx f hf

section shape
variable {net net' net'' : Net} {j s prev : Nat} {stJ stS : St} {hp : Nat}

/-- what `Shape.jnode` says of the joiner's node, field by field -/
structure JNode (x : Node) (s prev : Nat) (stJ : St) : Prop where
  state : x.state = stJ
  up : x.crashed = false
  pred : x.pred = some prev
  head : x.succs.head? = some s
  sur : x.surrogate = none
  locals : x.joinLocals = none ∨ x.joinLocals = some (prev, some s)

theorem Shape.jnode_get (h : Shape net net' j s prev stJ stS hp) {x : Node} (hx : net'.get j = some x) :
    JNode x s prev stJ := by
  obtain ⟨x', hx', hst, hup, hpr, hhd, hsur, hjl⟩ := h.jnode
  obtain rfl : x' = x := Option.some.inj (hx'.symm.trans hx)
  exact ⟨hst, hup, hpr, hhd, hsur, hjl⟩

/-- the nodes a lookup can reach in the middle of the join are the old members and `j` -/
theorem Shape.closed (c : Ctx net j s prev) (h : Shape net net' j s prev stJ stS hp) (hhp : hp = s ∨ hp = j) :
    ClosedP net' (fun f => Mem net f ∨ f = j) := by
  intro n hn nd hg hc
  refine ⟨fun t ht => ?_, fun f hf => h.fingers n nd hg hc f hf⟩
  by_cases e : n = j
  · subst e
    rw [(h.jnode_get hg).head] at ht; injection ht with ht; subst ht; exact Or.inl c.hsm
  · obtain ⟨y, hy, hcy⟩ := hn.resolve_right e
    obtain ⟨x, hx, _, _, _, _, h5⟩ := h.old n e y hy
    rw [hg] at hx; injection hx with hx; subst hx
    rw [h5] at ht
    split at ht
    · injection ht with ht; subst ht
      exact hhp.imp_left fun e1 => by rw [e1]; exact c.hsm
    · exact Or.inl (c.hs.succ_first hy hcy ht).1

theorem Shape.snode (c : Ctx net j s prev) (h : Shape net net' j s prev stJ stS hp) :
    ∃ xs, net'.get s = some xs ∧ xs.crashed = false ∧ xs.state = stS ∧ xs.pred = some j ∧
      xs.surrogate = some j := by
  obtain ⟨y, hy, hcy⟩ := c.hsm
  obtain ⟨_, hup⟩ := c.hq.active s y hy hcy
  obtain ⟨x, hx, hcr, hst, hpr, hsur, _⟩ := h.old s c.sj y hy
  exact ⟨x, hx, by rw [hcr]; exact hup, by simpa using hst, by simpa using hpr, by simpa using hsur⟩

theorem Shape.pnode (c : Ctx net j s prev) (h : Shape net net' j s prev stJ stS hp) :
    ∃ xp, net'.get prev = some xp ∧ xp.crashed = false ∧ xp.state = (if prev = s then stS else .active) ∧
      xp.succs.head? = some hp := by
  obtain ⟨y, hy, hcy⟩ := c.prevMem
  obtain ⟨hact, hup⟩ := c.hq.active prev y hy hcy
  obtain ⟨x, hx, hcr, hst, _, _, hhd⟩ := h.old prev c.pj y hy
  exact ⟨x, hx, by rw [hcr]; exact hup, by rw [hst, hact], by simpa using hhd⟩

theorem Shape.upd_absent (h : Shape net net' j s prev stJ stS hp) (n : Nat) (f : Node → Node) :
    ∀ m, m ≠ j → net.get m = none → (net'.upd n f).get m = none := by
  intro m hm hy
  rw [get_upd]
  split
  · rename_i e; subst e; rw [h.absent _ hm hy]; rfl
  · exact h.absent m hm hy

theorem Shape.upd_fingers (h : Shape net net' j s prev stJ stS hp) (n : Nat) (f : Node → Node)
    (hfi : ∀ x, net'.get n = some x → (f x).fingers = x.fingers)
    (hlive : ∀ x, net'.get n = some x → checkNodeState (f x) false = none → checkNodeState x false = none) :
    ∀ m x, (net'.upd n f).get m = some x → checkNodeState x false = none →
      ∀ g, some g ∈ x.fingers → Mem net g ∨ g = j := by
  intro m x hx hc g hg
  rw [get_upd] at hx
  split at hx
  · rename_i e; subst e
    obtain ⟨x', hx', rfl⟩ := Option.map_eq_some_iff.mp hx
    exact h.fingers m x' hx' (hlive x' hx' hc) g (by rw [← hfi x' hx']; exact hg)
  · exact h.fingers m x hx hc g hg

/-- a finger repair by an old member or the joiner writes fingers only (`fixFinger_spec`), and what it finds are old
members or `j` (`Shape.closed`) -/
theorem Shape.fixFinger (c : Ctx net j s prev) (h : Shape net net' j s prev stJ stS hp) (hhp : hp = s ∨ hp = j)
    (n : Nat) (hn : Mem net n ∨ n = j) : Shape net (fixFinger net' n) j s prev stJ stS hp := by
  obtain ⟨F, hF, hget⟩ := (fixFinger_spec net' n _ (h.closed c hhp) hn).get
  have keep : ∀ m x, net'.get m = some x → ∃ fs, (Ring.fixFinger net' n).get m = some { x with fingers := fs } := by
    intro m x hx
    rw [hget, get_upd]
    split
    · subst_vars; exact ⟨F, by rw [hx]; rfl⟩
    · exact ⟨x.fingers, hx⟩
  constructor
  · obtain ⟨x, hx, hrest⟩ := h.jnode
    obtain ⟨_, hx'⟩ := keep j x hx
    exact ⟨_, hx', hrest⟩
  · intro m hm y hy
    obtain ⟨x, hx, hrest⟩ := h.old m hm y hy
    obtain ⟨_, hx'⟩ := keep m x hx
    exact ⟨_, hx', hrest⟩
  · intro m hm hy
    rw [hget]; exact h.upd_absent _ _ m hm hy
  · intro m x hx hc f hf
    rw [hget, get_upd] at hx
    split at hx
    · subst_vars
      obtain ⟨x', hx', rfl⟩ := Option.map_eq_some_iff.mp hx
      rcases hF f hf with ⟨x1, hx1, h1⟩ | h1
      · rw [hx'] at hx1; cases hx1; exact h.fingers m x' hx' hc f h1
      · exact h1
    · exact h.fingers m x hx hc f hf

/-- an update of the joiner's own node: what it does to the joiner's clause of `Shape` is all there is to check
(`stabilize` at `j` refreshes the successor list, head still `s`; Joining → Active; the join's locals are dropped) -/
theorem Shape.updJ (h : Shape net net' j s prev stJ stS hp) (f : Node → Node) {stJ' : St}
    (hf : ∀ x, JNode x s prev stJ → JNode (f x) s prev stJ' ∧ (f x).fingers = x.fingers ∧
      (checkNodeState (f x) false = none → checkNodeState x false = none)) :
    Shape net (net'.upd j f) j s prev stJ' stS hp := by
  obtain ⟨x, hx, _⟩ := h.jnode
  obtain ⟨⟨h1, h2, h3, h4, h5, h6⟩, _⟩ := hf x (h.jnode_get hx)
  refine ⟨⟨f x, by rw [get_upd_same, hx]; rfl, h1, h2, h3, h4, h5, h6⟩, fun m hm y hy => ?_, h.upd_absent _ _,
    h.upd_fingers _ _ (fun x hx => (hf x (h.jnode_get hx)).2.1) (fun x hx => (hf x (h.jnode_get hx)).2.2)⟩
  rw [get_upd_other _ _ _ _ hm]; exact h.old m hm y hy

/-- `stabilize` at `prev`: the head of its successor list becomes `hp'` -/
theorem Shape.updSuccsPrev (c : Ctx net j s prev) (h : Shape net net' j s prev stJ stS hp) (l : List Nat)
    (hp' : Nat) (hl : l.head? = some hp') :
    Shape net (net'.upd prev (fun nd => { nd with succs := l })) j s prev stJ stS hp' := by
  refine ⟨?_, ?_, h.upd_absent _ _, h.upd_fingers _ _ (fun _ _ => rfl) (fun _ _ hc => hc)⟩
  · obtain ⟨x, hx, hrest⟩ := h.jnode
    exact ⟨x, by rw [get_upd_other _ _ _ _ (Ne.symm c.pj)]; exact hx, hrest⟩
  · intro m hm y hy
    obtain ⟨x, hx, hup, hst, hpr, hsur, hhd⟩ := h.old m hm y hy
    rw [get_upd]
    by_cases e : m = prev
    · subst e
      exact ⟨{ x with succs := l }, by simp [hx], hup, hst, hpr, hsur, by simp [hl]⟩
    · exact ⟨x, by simp [e, hx], hup, hst, hpr, hsur, by simpa [e] using hhd⟩

/-- the successor's membership lock is released: Transferring → Active -/
theorem Shape.release (c : Ctx net j s prev) (h : Shape net net' j s prev stJ .transferring hp) :
    Shape net (net'.upd s (fun nd => if nd.state == .transferring then { nd with state := .active } else nd))
      j s prev stJ .active hp := by
  obtain ⟨xs, hxs, hs1, hs2, hs3, hs4⟩ := h.snode c
  refine ⟨?_, ?_, h.upd_absent _ _, h.upd_fingers _ _ ?_ ?_⟩
  · obtain ⟨x, hx, hrest⟩ := h.jnode
    exact ⟨x, by rw [get_upd_other _ _ _ _ (Ne.symm c.sj)]; exact hx, hrest⟩
  · intro m hm y hy
    obtain ⟨x, hx, hup, hst, hpr, hsur, hhd⟩ := h.old m hm y hy
    rw [get_upd]
    by_cases e : m = s
    · subst e
      rw [hxs] at hx; injection hx with hx; subst hx
      refine ⟨{ xs with state := .active }, by simp [hxs, hs2], hup, by simp, hpr, hsur, hhd⟩
    · exact ⟨x, by simp [e, hx], hup, by simpa [e] using hst, hpr, hsur, hhd⟩
  · intro x _; split <;> rfl
  · intro x hx _
    rw [hxs] at hx; injection hx with hx; subst hx
    simp [checkNodeState, hs1, hs2]

/-- **startTasks at the joiner** (`stabilize`, `fixFinger`, `checkPredecessor`) keep the shape -/
theorem shape_tasks (c : Ctx net j s prev) (h : Shape net net' j s prev .joining .transferring s) :
    Shape net (joinTasks net' j) j s prev .joining .transferring s := by
  unfold joinTasks
  obtain ⟨x, hx, hst, hup, hpr, hhd, hsur, hjl⟩ := h.jnode
  obtain ⟨xs, hxs, hs1, hs2, hs3, hs4⟩ := h.snode c
  obtain ⟨l, hl, hst⟩ := stabilize_confirm net' j s x xs hx hhd c.sj hxs
    (by simp [checkNodeState, hs1, hs2]) hs3
  have hA : Shape net (stabilize net' j) j s prev .joining .transferring s := by
    rw [hst]; exact h.updJ _ fun x hx => ⟨⟨hx.state, hx.up, hx.pred, hl, hx.sur, hx.locals⟩, rfl, id⟩
  have hB := hA.fixFinger c (Or.inl rfl) j (Or.inr rfl)
  obtain ⟨x', hx', _, _, hpr', _⟩ := hB.jnode
  obtain ⟨xp, hxp, hp1, hp2, _⟩ := hB.pnode c
  have hping : ping (fixFinger (stabilize net' j) j) prev = true := by
    unfold ping
    by_cases e : prev = s <;> simp [e] at hp2 <;> simp [hxp, checkNodeState, hp1, hp2]
  rw [checkPredecessor_noop _ j prev x' hx' hpr' hping]
  exact hB

/-- **the advisory to the predecessor** (`FinishJoin(stabilize)` at `prev`: it adopts `j` as first
successor) **and the activation of the joiner** -/
theorem shape_advise (c : Ctx net j s prev) (h : Shape net net' j s prev .joining .transferring s) :
    Shape net (joinAdvise net' j) j s prev .active .transferring j := by
  obtain ⟨x, hx, hst, hup, hpr, hhd, hsur, hjl⟩ := h.jnode
  have hjl : joinLocalsOf x = (some prev, some s) := by
    unfold joinLocalsOf; rcases hjl with e | e <;> simp [e, hpr, hhd]
  obtain ⟨xs, hxs, hs1, hs2, hs3, hs4⟩ := h.snode c
  obtain ⟨xp, hxp, hp1, hp2, hp3⟩ := h.pnode c
  obtain ⟨l, hl, hst⟩ := stabilize_adopt net' prev s j xp xs x hxp hp3 hxs
    (by simp [checkNodeState, hs1, hs2]) hs3 c.hb (Ne.symm c.pj) hx (by simp [checkNodeState, hst, hup]) hpr
  have hA : Shape net (stabilize net' prev) j s prev .joining .transferring j := by
    rw [hst]; exact h.updSuccsPrev c l j hl
  have hB := hA.fixFinger c (Or.inr rfl) prev (Or.inl c.prevMem)
  unfold joinAdvise
  simp only [hx, hjl, C06.finish_advise net' prev xp hxp hp1]
  exact hB.updJ _ fun x hx => ⟨⟨rfl, hx.up, hx.pred, hx.head, hx.sur, hx.locals⟩, rfl,
    fun _ => by simp [checkNodeState, hx.state, hx.up]⟩

/-- **the release of the successor's membership lock** -/
theorem shape_release (c : Ctx net j s prev) (h : Shape net net' j s prev .active .transferring j) :
    Shape net (joinRelease net' j) j s prev .active .active j := by
  obtain ⟨x, hx, hst, hup, hpr, hhd, hsur, hjl⟩ := h.jnode
  have hjl : joinLocalsOf x = (some prev, some s) := by
    unfold joinLocalsOf; rcases hjl with e | e <;> simp [e, hpr, hhd]
  have hA := h.updJ (fun nd => { nd with joinLocals := none }) fun x hx =>
    ⟨⟨hx.state, hx.up, hx.pred, hx.head, hx.sur, .inl rfl⟩, rfl, id⟩
  obtain ⟨xs, hxs, hs1, hs2, hs3, hs4⟩ := hA.snode c
  unfold joinRelease
  simp only [hx, hjl]
  rw [Specter.C06.finish_release _ s xs hxs hs1]
  exact hA.release c

end shape

/-- the node that served the hand-off is the owner of the joiner's identifier in the old ring -/
theorem handOff_node_is_owner {net : Net} {j s prev : Nat} (c : Ctx net j s prev) : IsOwner net j s :=
  ⟨c.hsm, fun m hm => dist_le_of_cw_le prev s j m (c.hs.lt prev c.prevMem) (c.hs.lt s c.hsm) c.hj (c.hs.lt m hm)
    (Nat.le_of_lt c.cw_j) (c.pred.2 m hm)⟩

theorem shape_final {net net' : Net} {j s prev : Nat} (c : Ctx net j s prev)
    (h : Shape net net' j s prev .active .active j) :
    Stable net' ∧ Quiescent net' ∧ Mem net' j ∧ ∀ m, Mem net' m ↔ (Mem net m ∨ m = j) := by
  have memiff : ∀ m, Mem net' m ↔ (Mem net m ∨ m = j) := by
    intro m
    by_cases e : m = j
    · subst e
      obtain ⟨x, hx, hst, hup, _⟩ := h.jnode
      exact iff_of_true ⟨x, hx, by simp [checkNodeState, hst, hup]⟩ (Or.inr rfl)
    · rw [or_iff_left e, mem_iff_live, mem_iff_live]
      cases hy : net.get m with
      | none => rw [h.absent m e hy]
      | some y =>
        obtain ⟨x, hx, hcr, hst', _⟩ := h.old m e y hy
        -- `Shape` gives the state of `s` outright: Active, as it was before
        have hst : x.state = y.state := by
          rw [hst']; split
          · subst_vars; exact (c.hq.active _ y hy (live_of_mem c.hsm hy)).1.symm
          · rfl
        rw [hx, Option.map_some, Option.map_some, checkNodeState_congr hst hcr false]
  have viewO : ∀ n x, n ≠ j → net'.get n = some x → checkNodeState x false = none →
      ∃ y, net.get n = some y ∧ checkNodeState y false = none ∧
        x.pred = (if n = s then some j else y.pred) ∧
        x.succs.head? = (if n = prev then some j else y.succs.head?) ∧
        x.surrogate = (if n = s then some j else y.surrogate) ∧
        x.state = .active ∧ x.crashed = false := by
    intro n x hn hx hcx
    obtain ⟨y, hy, hcy⟩ := ((memiff n).mp ⟨x, hx, hcx⟩).resolve_right hn
    obtain ⟨x', hx', hcr, hst, hpr, hsur, hhd⟩ := h.old n hn y hy
    rw [hx] at hx'; injection hx' with hx'; subst hx'
    obtain ⟨hact, hup⟩ := c.hq.active n y hy hcy
    exact ⟨y, hy, hcy, hpr, hhd, hsur, by rw [hst, hact]; simp, by rw [hcr, hup]⟩
  refine ⟨?_, ⟨?_, ?_⟩, (memiff j).mpr (Or.inr rfl), memiff⟩
  · exact Stable.insert c.hs c.hj c.prevMem c.hsm c.pred.2 c.cw_j memiff
      (fun x hx => ⟨(h.jnode_get hx).pred, (h.jnode_get hx).head⟩)
      (fun n x hx hcx e => let ⟨y, hy, hcy, h3, h5, _⟩ := viewO n x e hx hcx; ⟨y, hy, hcy, h3, h5⟩) h.fingers
  · -- every live node serves
    intro n x hx hcx
    by_cases e : n = j
    · subst e; exact ⟨(h.jnode_get hx).state, (h.jnode_get hx).up⟩
    · obtain ⟨y, hy, hcy, _, _, _, h6, h7⟩ := viewO n x e hx hcx
      exact ⟨h6, h7⟩
  · -- no hand-off pending
    intro n x hx hcx
    by_cases e : n = j
    · subst e; exact Or.inl (h.jnode_get hx).sur
    · obtain ⟨y, hy, hcy, h3, _, h4, _, _⟩ := viewO n x e hx hcx
      by_cases es : n = s
      · subst es
        simp only [if_true] at h3 h4
        right; rw [h3, h4]; exact ⟨rfl, fun e2 => by injection e2 with e2; exact c.sj e2.symm⟩
      · simp only [es, if_false] at h3 h4
        rcases c.hq.surrogate n y hy hcy with h8 | ⟨h8, h9⟩
        · left; rw [h4]; exact h8
        · right; rw [h4, h3]; exact ⟨h8, h9⟩

theorem join_ok (net : Net) (j peer : Nat) (net' : Net) :
    join net j peer = (net', none) → ∃ net3, joinBegin net j peer = (net3, none) ∧ joinEnd net3 j = net' := by
  fun_cases join net j peer with
  | case1 => rintro ⟨⟩
  | case2 net3 hb => exact fun h => ⟨net3, hb, (Prod.mk.inj h).1⟩

/-- what `new` leaves in a node that has never been part of a ring, as far as the join reads it: the node is
present, Inactive, not crashed, has no surrogate pointer, and every non-nil finger entry (there is none
after `new`) names a member. Its predecessor, successor list, store and `joinLocals` are overwritten or
irrelevant. -/
structure FreshJoiner (net : Net) (j : Nat) : Prop where
  present : ∃ nd, net.get j = some nd ∧ nd.state = .inactive ∧ nd.crashed = false ∧ nd.surrogate = none ∧
    ∀ f, some f ∈ nd.fingers → Mem net f

/-- **A completed graceful join keeps the ring stable and quiescent**, for every ring size and id layout,
through whichever node the request was routed. `Mem net peer` is NOT needed: a request through a dead or
unknown peer fails, which `h` excludes. Neither is any fuel side condition: `h` says the routing finished,
and the hand-off's own range check `Between(prev, j, s)` places `j` whatever the route. -/
theorem join_preserves_stable (net : Net) (hs : Stable net) (hq : Quiescent net) (j peer : Nat)
    (hj : j < M) (hfresh : FreshJoiner net j) (net' : Net) (h : join net j peer = (net', none)) :
    Stable net' ∧ Quiescent net' ∧ Mem net' j ∧ (∀ m, Mem net' m ↔ (Mem net m ∨ m = j)) := by
  obtain ⟨ndj, hgj, _, hcr, hsur, hfin⟩ := hfresh.present
  obtain ⟨net3, hb, rfl⟩ := join_ok net j peer net' h
  obtain ⟨s, prev, c, hsh⟩ := shape_begin net hs hq j peer hj ndj hgj hcr hsur hfin net3 hb
  unfold joinEnd
  exact shape_final c (shape_release c (shape_advise c (shape_tasks c hsh)))

/-- `net'` arises from `net` by completed graceful joins of fresh nodes, one after the other -/
inductive Joins : Net → Net → Prop where
  | refl (net : Net) : Joins net net
  | step (net net1 net2 : Net) (j peer : Nat) (hprev : Joins net net1) (hj : j < M)
      (hfresh : FreshJoiner net1 j) (h : join net1 j peer = (net2, none)) : Joins net net2

theorem joins_preserve_stable (net net' : Net) (hjs : Joins net net') (hs : Stable net) (hq : Quiescent net) :
    Stable net' ∧ Quiescent net' := by
  induction hjs with
  | refl => exact ⟨hs, hq⟩
  | step net1 net2 j peer _ hj hfresh h ih =>
    obtain ⟨hs1, hq1⟩ := ih
    obtain ⟨a, b, _⟩ := join_preserves_stable net1 hs1 hq1 j peer hj hfresh net2 h
    exact ⟨a, b⟩

/-- Stated for any net `net1` that agrees with the ring `net` on its members and holds the joiner, Joining and
up (in `join` that is `net.upd j …`): the request goes to the owner of `j`, whose hand-off accepts it. -/
theorem requestToJoin_succeeds (net net1 : Net) (hs : Stable net) (hq : Quiescent net) (j peer : Nat) (hj : j < M)
    (hnj : ¬ Mem net j) (hag : ∀ n, Mem net n → net1.get n = net.get n)
    (ndj : Node) (hg1j : net1.get j = some ndj) (hst : ndj.state = .joining) (hcr : ndj.crashed = false)
    (hp : Mem net peer) (hF : LookupsComplete net j) :
    ∃ n2 v, requestToJoin net1 FUEL peer j = (n2, .ok v) := by
  have look : ∀ m, Mem net m → ∃ o, findSucc net1 FUEL m j = .found o ∧ IsOwner net j o := by
    intro m hm
    obtain ⟨o, ho, hown⟩ := lookup_FUEL_owner net hs j hj hF m hm
    exact ⟨o, by rw [(findSucc_closed net _ (Mem net) (stable_closed net hs) hag j FUEL m hm).1]; exact ho, hown⟩
  obtain ⟨o, hfo, hown⟩ := look peer hp
  obtain ⟨o2, hfo2, hown2⟩ := look o hown.1
  have e2 : o2 = o := owner_unique net hs.lt j o2 o hj hown2 hown
  subst e2
  have hoj : o2 ≠ j := fun e => hnj (e ▸ hown.1)
  obtain ⟨ndo, hgo, hco⟩ := hown.1
  obtain ⟨hact, hup⟩ := hq.active o2 ndo hgo hco
  obtain ⟨ndp, hgp, hcp⟩ := hp
  obtain ⟨_, hupp⟩ := hq.active peer ndp hgp hcp
  have hg1o := (hag o2 hown.1).trans hgo
  have hg1p := (hag peer ⟨ndp, hgp, hcp⟩).trans hgp
  -- the hand-off at the owner succeeds: `j` is in its predecessor range, and a Joining node accepts the keys
  obtain ⟨prev, hpr, hpm, _⟩ := hs.pred o2 ndo hgo hco
  have hbt : between prev j o2 false = true :=
    between_open_of_closed prev j o2 (owner_in_pred_range net hs j o2 prev hj hown ndo hgo hco hpr) (Ne.symm hoj)
  obtain ⟨netT, htr⟩ : ∃ netT, transferUp net1 o2 j prev ndo.store = some netT :=
    C05.handOver_succeeds net1 o2 j _ ndj hg1j (by simp [checkNodeState, hcr, hst])
  obtain ⟨n2, v, hho⟩ : ∃ n2 v, handOff net1 o2 j = (n2, .ok v) :=
    ⟨_, _, by unfold handOff; simp only [hg1o, hact, hpr, hbt, htr]; rfl⟩
  refine ⟨n2, v, ?_⟩
  have atOwner : ∀ fuel, requestToJoin net1 (fuel+1) o2 j = (n2, .ok v) := by
    intro fuel
    rw [requestToJoin]
    simp only [hg1o, hup, hfo2]
    simp [hoj, hho]
  -- `FUEL` is 256: the step at `peer` and, if it forwards, the step at the owner are unfolded by hand
  show requestToJoin _ (254+1+1) peer j = _
  rw [requestToJoin]
  simp only [hg1p, hupp, hfo]
  by_cases e : o2 = peer
  · subst e; simp [hoj, hho]
  · simp [hoj, e, atOwner 254]

/-- **Progress.** On a stable quiescent ring whose lookups for `j` complete within the model's fuel, the
join of a fresh node `j` through ANY live member succeeds (the request is routed to the owner of `j`,
whose hand-off accepts it) — so `join_preserves_stable` is never vacuous on such rings. -/
theorem join_succeeds (net : Net) (hs : Stable net) (hq : Quiescent net) (j peer : Nat) (hj : j < M)
    (hfresh : FreshJoiner net j) (hp : Mem net peer) (hF : LookupsComplete net j) :
    ∃ net', join net j peer = (net', none) := by
  obtain ⟨ndj, hgj, hin, hcr, _, _⟩ := hfresh.present
  have hnj := not_mem_of_inactive hgj hin
  obtain ⟨n2, ⟨pv, sl⟩, hreq⟩ := requestToJoin_succeeds net (net.upd j fun nd => { nd with state := .joining }) hs hq
    j peer hj hnj (fun n hn => get_upd_other _ _ _ _ (fun e => hnj (e ▸ hn))) { ndj with state := .joining }
    (by rw [get_upd_same, hgj]; rfl) rfl hcr hp hF
  have hnone : (join net j peer).2 = none := by
    unfold join joinBegin
    simp [hgj, hin, hreq]
  exact ⟨(join net j peer).1, Prod.ext rfl hnone⟩

theorem eq_of_snd_none {α β : Type} (p : α × Option β) (h : p.2 = none) : p = (p.1, none) := by
  rw [← h]

/-- a node exactly as `new` leaves it is a fresh joiner -/
theorem fresh_of_new (net : Net) (j : Nat) (h : net.get j = some ({} : Node)) : FreshJoiner net j :=
  ⟨⟨_, h, rfl, rfl, rfl, fun f hf => by simp at hf⟩⟩

/-- executable form of `FreshJoiner` -/
def freshB (net : Net) (j : Nat) : Bool :=
  match net.get j with
  | some nd => nd.state == .inactive && !nd.crashed && nd.surrogate.isNone &&
      nd.fingers.all (fun f => match f with | some f => memB net f | none => true)
  | none => false

theorem fresh_of_freshB (net : Net) (j : Nat) (h : freshB net j = true) : FreshJoiner net j := by
  unfold freshB at h
  cases hg : net.get j with
  | none => simp [hg] at h
  | some nd =>
    simp only [hg, Bool.and_eq_true, beq_iff_eq, Bool.not_eq_true', Option.isNone_iff_eq_none,
      List.all_eq_true] at h
    obtain ⟨⟨⟨h1, h2⟩, h3⟩, h4⟩ := h
    exact ⟨⟨nd, hg, h1, h2, h3, fun f hf => (memB_iff net f).mp (by simpa using h4 (some f) hf)⟩⟩

/-- the three-node ring of C01 (ids 0, 5, 2^48-1 with wrap-around, one departed node still present)
plus a node `3` as `new` leaves it -/
def joinRing : Net := Specter.C01.ring3 ++ [(3, ({} : Node))]

/-- the one-node ring of C01 plus a new node `9` (the case `prev = s`) -/
def joinRing1 : Net := Specter.C01.ring1 ++ [(9, ({} : Node))]

/-- every hypothesis of `join_preserves_stable` and of `join_succeeds` holds for `joinRing`, joiner 3,
through peer 0 (the owner of 3 is node 5, reached by routing) … -/
example : Stable joinRing ∧ Quiescent joinRing ∧ 3 < M ∧ FreshJoiner joinRing 3 ∧ Mem joinRing 0 ∧
    LookupsComplete joinRing 3 ∧ (join joinRing 3 0).2 = none :=
  ⟨stable_of_stableB _ (by decide +kernel), quiescent_of_quiescentB _ (by decide +kernel), by decide +kernel, fresh_of_new _ _ rfl,
   (memB_iff _ _).mp (by decide +kernel), lookupsComplete_of_B _ _ (by decide +kernel), by decide +kernel⟩

-- … the join inserts 3 between 0 and 5 …
set_option maxRecDepth 8192 in
example : ((join joinRing 3 0).1.get 3).map (fun x => (x.state, x.pred, x.succs.head?)) =
    some (.active, some 0, some 5) := by decide +kernel
set_option maxRecDepth 8192 in
example : ((join joinRing 3 0).1.get 5).map (fun x => (x.state, x.pred, x.surrogate)) =
    some (.active, some 3, some 3) := by decide +kernel
set_option maxRecDepth 8192 in
example : ((join joinRing 3 0).1.get 0).map (fun x => x.succs.head?) = some (some 3) := by decide +kernel

/-- … and the theorem applies to it (also to the one-node ring, where `prev = s`). -/
example : Stable (join joinRing 3 0).1 ∧ Quiescent (join joinRing 3 0).1 ∧ Mem (join joinRing 3 0).1 3 :=
  have h := join_preserves_stable joinRing (stable_of_stableB _ (by decide +kernel)) (quiescent_of_quiescentB _ (by decide +kernel))
    3 0 (by decide +kernel) (fresh_of_new _ _ rfl) (join joinRing 3 0).1 (eq_of_snd_none _ (by decide +kernel))
  ⟨h.1, h.2.1, h.2.2.1⟩

example : Stable (join joinRing1 9 7).1 ∧ Quiescent (join joinRing1 9 7).1 ∧ Mem (join joinRing1 9 7).1 9 :=
  have h := join_preserves_stable joinRing1 (stable_of_stableB _ (by decide +kernel)) (quiescent_of_quiescentB _ (by decide +kernel))
    9 7 (by decide +kernel) (fresh_of_new _ _ rfl) (join joinRing1 9 7).1 (eq_of_snd_none _ (by decide +kernel))
  ⟨h.1, h.2.1, h.2.2.1⟩

/-- two joins in sequence (`Joins`): 3 joins through 0, then 4 joins through the new member 3 -/
def joinRing2 : Net := Specter.C01.ring3 ++ [(3, ({} : Node)), (4, ({} : Node))]

set_option maxRecDepth 8192 in
example : Joins joinRing2 (join (join joinRing2 3 0).1 4 3).1 :=
  Joins.step _ _ _ 4 3
    (Joins.step _ _ _ 3 0 (Joins.refl _) (by decide +kernel) (fresh_of_freshB _ _ (by decide +kernel))
      (eq_of_snd_none _ (by decide +kernel)))
    (by decide +kernel) (fresh_of_freshB _ _ (by decide +kernel)) (eq_of_snd_none _ (by decide +kernel))

end Specter.C02


