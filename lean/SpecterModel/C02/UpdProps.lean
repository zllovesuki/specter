import SpecterModel.C02.Upd
import SpecterModel.C02.GenUpd
/-!
C02, publication of the successor list by overlapping stabilize runs: theorems.

For any program, any number of overlapping runs, any views and any schedule: if the program obeys the lock
discipline (`lockDiscipline`: an annotation of the program points by abstract local states, closed under `transfer`)
then "the lock is free → the stored hash is the hash of the stored list" is an invariant (`Inv`); if in addition a
run executing alone converges (`soloConverges`, tied to the concrete run by the simulation `SoloRel`) then, whenever
the lock is free — in particular once all overlapping runs have finished — ONE further run with the newest view
leaves exactly that view published (`repair_restores`), and it stays published in all later rounds. The node
therefore cannot stay frozen on an older list "because the hash already names the newest one".

Instance: the program generated from the current chord/local_tasks.go satisfies both predicates. Negative witness:
the program that swaps the hash BEFORE taking the lock fails the discipline, and a concrete schedule of two runs
ends frozen for ever (`swap_before_lock_freezes`).
-/
namespace Specter.C02.Upd

/-! ### meaning of the abstract local states -/

def locSem (H : Nat → Nat) (l : Loc) (i v : Nat) (sh : Shared) : Prop :=
  match l with
  | .out => sh.owner ≠ some i
  | .inn false false => sh.owner = some i ∧ sh.hashVar = H sh.listVar
  | .inn true false => sh.owner = some i ∧ sh.hashVar = H v
  | .inn false true => sh.owner = some i ∧ sh.listVar = v
  | .inn true true => sh.owner = some i ∧ sh.hashVar = H v ∧ sh.listVar = v

/-- what has been written in this critical section is the run's own; while nothing has been written the shared
state is still consistent -/
theorem locSem_inn_iff {H : Nat → Nat} {wh wl : Bool} {i v : Nat} {sh : Shared} :
    locSem H (.inn wh wl) i v sh ↔
      sh.owner = some i ∧ (wh = true → sh.hashVar = H v) ∧ (wl = true → sh.listVar = v) ∧
        (wh = false → wl = false → sh.hashVar = H sh.listVar) := by
  cases wh <;> cases wl <;> simp [locSem]

theorem locSem_other {H : Nat → Nat} {i j v : Nat} {lj : Loc} {sh sh' : Shared} (hne : j ≠ i)
    (hb : sh.owner = some i ∨ sh.owner = none) (ha : sh'.owner = some i ∨ sh'.owner = none)
    (h : locSem H lj j v sh) : locSem H lj j v sh' := by
  cases lj with
  | out =>
    show sh'.owner ≠ some j
    rcases ha with ha | ha <;> rw [ha]
    · exact fun e => hne (Option.some.inj e).symm
    · exact fun e => nomatch e
  | inn a b =>
    have := (locSem_inn_iff.mp h).1
    rcases hb with hb | hb <;> rw [hb] at this
    · exact absurd (Option.some.inj this).symm hne
    · cases this

/-- what a step of run `i` from `sh` to `sh'` owes the invariant `Inv` -/
structure Frame (H : Nat → Nat) (i : Nat) (sh sh' : Shared) : Prop where
  cons : sh'.owner = none → sh'.hashVar = H sh'.listVar
  others : ∀ j v lj, j ≠ i → locSem H lj j v sh → locSem H lj j v sh'
  own : ∀ k, sh'.owner = some k → k = i ∨ sh.owner = some k

theorem frame_inside {H : Nat → Nat} {i : Nat} {sh sh' : Shared} (ho : sh.owner = some i) (ho' : sh'.owner = some i) :
    Frame H i sh sh' :=
  ⟨fun h => (nomatch ho'.symm.trans h), fun _ _ _ hne => locSem_other hne (Or.inl ho) (Or.inl ho'),
   fun _ h => Or.inr (ho.trans (ho'.symm.trans h))⟩

/-- the invariant, relative to an annotation of the program -/
structure Inv (H : Nat → Nat) (prog : Prog) (ann : Ann) (s : State) : Prop where
  cons : s.sh.owner = none → s.sh.hashVar = H s.sh.listVar
  loc : ∀ i t, s.ths[i]? = some t → t.pc ≤ prog.length ∧ ∃ l, l ∈ annAt ann t.pc ∧ locSem H l i t.view s.sh
  own : ∀ i, s.sh.owner = some i → i < s.ths.length

theorem checkAnn_start {prog : Prog} {ann : Ann} (h : checkAnn prog ann = true) : Loc.out ∈ annAt ann 0 := by
  simp only [checkAnn, Bool.and_eq_true] at h
  exact List.contains_iff_mem.mp h.1.1

theorem checkAnn_end {prog : Prog} {ann : Ann} (h : checkAnn prog ann = true) :
    ∀ l, l ∈ annAt ann prog.length → l = Loc.out := by
  simp only [checkAnn, Bool.and_eq_true] at h
  intro l hl
  have := List.all_eq_true.mp h.2 l hl
  simpa using this

theorem checkAnn_step {prog : Prog} {ann : Ann} (h : checkAnn prog ann = true)
    {pc : Nat} {a : Act} (ha : prog[pc]? = some a) {l : Loc} (hl : l ∈ annAt ann pc) :
    ∃ succs, transfer a pc l = some succs ∧
      ∀ p, p ∈ succs → p.1 ≤ prog.length ∧ p.2 ∈ annAt ann p.1 := by
  simp only [checkAnn, Bool.and_eq_true] at h
  have h1 := List.all_eq_true.mp h.1.2 pc (List.mem_range.mpr (List.getElem?_eq_some_iff.mp ha).1)
  simp only [ha] at h1
  have h2 := List.all_eq_true.mp h1 l hl
  cases htr : transfer a pc l with
  | none => simp [htr] at h2
  | some succs =>
    refine ⟨succs, rfl, ?_⟩
    simp only [htr] at h2
    intro p hp
    have h3 := List.all_eq_true.mp h2 p hp
    simp only [Bool.and_eq_true, decide_eq_true_eq] at h3
    exact ⟨h3.1, List.contains_iff_mem.mp h3.2⟩

theorem stepT_transfer {H : Nat → Nat} {prog : Prog} {i : Nat} {t t' : Thread} {sh sh' : Shared}
    {a : Act} {l : Loc} {succs : List (Nat × Loc)}
    (ha : prog[t.pc]? = some a)
    (hl : locSem H l i t.view sh)
    (hcons : sh.owner = none → sh.hashVar = H sh.listVar)
    (hstep : stepT H prog i t sh = some (t', sh'))
    (htr : transfer a t.pc l = some succs) :
    t'.view = t.view ∧ (∃ p, p ∈ succs ∧ p.1 = t'.pc ∧ locSem H p.2 i t.view sh') ∧ Frame H i sh sh' := by
  unfold stepT at hstep
  rw [ha] at hstep
  clear ha
  revert hl hstep htr
  fun_cases transfer a t.pc l
  case case1 k => -- loadHashCmp
    intro hl hstep
    rintro ⟨⟩
    simp only at hstep
    split at hstep <;> cases hstep
    · exact ⟨rfl, ⟨(t.pc + 1 + k, l), .tail _ (.head _), rfl, hl⟩, ⟨hcons, fun _ _ _ _ h => h, fun _ h => Or.inr h⟩⟩
    · exact ⟨rfl, ⟨(t.pc + 1, l), .head _, rfl, hl⟩, ⟨hcons, fun _ _ _ _ h => h, fun _ h => Or.inr h⟩⟩
  case case2 k wh wl => -- swapHashCmp, inside
    intro hl hstep
    rintro ⟨⟩
    obtain ⟨hown, _, hlist, _⟩ := locSem_inn_iff.mp hl
    have hnew : locSem H (.inn true wl) i t.view { sh with hashVar := H t.view } :=
      locSem_inn_iff.mpr ⟨hown, fun _ => rfl, hlist, fun h => Bool.noConfusion h⟩
    simp only at hstep
    split at hstep <;> cases hstep
    · exact ⟨rfl, ⟨(t.pc + 1 + k, _), .tail _ (.head _), rfl, hnew⟩, frame_inside hown hown⟩
    · exact ⟨rfl, ⟨(t.pc + 1, _), .head _, rfl, hnew⟩, frame_inside hown hown⟩
  case case4 wh wl => -- storeHash, inside
    intro hl
    rintro ⟨⟩ ⟨⟩
    obtain ⟨hown, _, hlist, _⟩ := locSem_inn_iff.mp hl
    exact ⟨rfl, ⟨(t.pc + 1, Loc.inn true wl), .head _, rfl,
      locSem_inn_iff.mpr ⟨hown, fun _ => rfl, hlist, fun h => Bool.noConfusion h⟩⟩, frame_inside hown hown⟩
  case case6 wh wl => -- assignList, inside
    intro hl
    rintro ⟨⟩ ⟨⟩
    obtain ⟨hown, hhash, _, _⟩ := locSem_inn_iff.mp hl
    exact ⟨rfl, ⟨(t.pc + 1, Loc.inn wh true), .head _, rfl,
      locSem_inn_iff.mpr ⟨hown, hhash, fun _ => rfl, fun _ h => Bool.noConfusion h⟩⟩, frame_inside hown hown⟩
  case case8 => -- lock, outside
    intro hl hstep
    rintro ⟨⟩
    simp only at hstep
    split at hstep
    · rename_i hfree
      cases hstep
      exact ⟨rfl, ⟨(t.pc + 1, Loc.inn false false), .head _, rfl,
          locSem_inn_iff.mpr ⟨rfl, fun h => Bool.noConfusion h, fun h => Bool.noConfusion h, fun _ _ => hcons hfree⟩⟩,
        ⟨(fun h => nomatch h), fun _ _ _ hne => locSem_other hne (Or.inr hfree) (Or.inl rfl),
          fun k h => Or.inl (Option.some.inj h).symm⟩⟩
    · cases hstep
  case case10 w => -- unlock, inside
    intro hl hstep
    rintro ⟨⟩
    obtain ⟨hown, hhash, hlist, hclean⟩ := locSem_inn_iff.mp hl
    simp only [hown, ↓reduceIte] at hstep
    cases hstep
    refine ⟨rfl, ⟨(t.pc + 1, Loc.out), .head _, rfl, (fun h => nomatch h)⟩, fun _ => ?_,
      fun _ _ _ hne => locSem_other hne (Or.inl hown) (Or.inr rfl), fun _ h => nomatch h⟩
    -- leaving the critical section: nothing written, or both written
    cases w with
    | false => exact hclean rfl rfl
    | true => exact (hhash rfl).trans (congrArg H (hlist rfl).symm)
  -- the other rows are the violations (`none`)
  all_goals
    intro _ _
    rintro ⟨⟩

theorem step_inv {H : Nat → Nat} {prog : Prog} {ann : Ann} (hchk : checkAnn prog ann = true)
    {s : State} (hinv : Inv H prog ann s) (i : Nat) : Inv H prog ann (step H prog s i) := by
  fun_cases step H prog s i
  · exact hinv -- no such run
  · exact hinv -- the run is not enabled
  · rename_i t hti t' sh' hst -- the run steps
    obtain ⟨hpcle, l, hlmem, hlsem⟩ := hinv.loc i t hti
    have hilt : i < s.ths.length := (List.getElem?_eq_some_iff.mp hti).1
    -- the run is not finished, otherwise it could not step
    cases ha : prog[t.pc]? with
    | none => simp [stepT, ha] at hst
    | some a =>
      obtain ⟨succs, htr, hsuccs⟩ := checkAnn_step hchk ha hlmem
      obtain ⟨hview, ⟨p, hp, hppc, hpsem⟩, hframe⟩ := stepT_transfer ha hlsem hinv.cons hst htr
      refine ⟨hframe.cons, ?_, ?_⟩
      · intro j tj hj
        by_cases hij : i = j
        · subst hij
          rw [List.getElem?_set_self hilt] at hj
          cases hj
          refine ⟨hppc ▸ (hsuccs p hp).1, p.2, hppc ▸ (hsuccs p hp).2, ?_⟩
          rw [hview]
          exact hpsem
        · rw [List.getElem?_set_ne hij] at hj
          obtain ⟨h1, lj, hljmem, hljsem⟩ := hinv.loc j tj hj
          exact ⟨h1, lj, hljmem, hframe.others j tj.view lj (fun h => hij h.symm) hljsem⟩
      · intro k hk
        simp only [List.length_set]
        rcases hframe.own k hk with rfl | hold
        · exact hilt
        · exact hinv.own k hold

theorem run_inv {H : Nat → Nat} {prog : Prog} {ann : Ann} (hchk : checkAnn prog ann = true)
    (sched : List Nat) {s : State} (h : Inv H prog ann s) : Inv H prog ann (run H prog s sched) :=
  List.foldlRecOn sched (step H prog) h fun _ hs i _ => step_inv hchk hs i

theorem init_inv {H : Nat → Nat} {prog : Prog} {ann : Ann} (hchk : checkAnn prog ann = true)
    (v0 : Nat) (views : List Nat) : Inv H prog ann (init H v0 views) := by
  refine ⟨fun _ => rfl, ?_, ?_⟩
  · intro i t hi
    simp only [init, List.getElem?_map] at hi
    cases hv : views[i]? with
    | none => simp [hv] at hi
    | some v =>
      simp only [hv, Option.map_some, Option.some.injEq] at hi
      subst hi
      exact ⟨Nat.zero_le _, Loc.out, checkAnn_start hchk, by simp [locSem, init]⟩
  · intro i hi; simp [init] at hi

/-- Every state reachable by any schedule of any number of overlapping runs satisfies the invariant. -/
theorem reachable_inv {H : Nat → Nat} {prog : Prog} (hld : lockDiscipline prog = true)
    (v0 : Nat) (views : List Nat) (sched : List Nat) :
    Inv H prog (infer prog) (run H prog (init H v0 views) sched) :=
  run_inv hld sched (init_inv hld v0 views)

/-- INVARIANT (any number of runs, any views, any schedule): whenever the lock is free, the stored hash is the
hash of the stored list. -/
theorem hash_names_list_when_unlocked {H : Nat → Nat} {prog : Prog} (hld : lockDiscipline prog = true)
    (v0 : Nat) (views : List Nat) (sched : List Nat) :
    let s := run H prog (init H v0 views) sched
    s.sh.owner = none → s.sh.hashVar = H s.sh.listVar :=
  (reachable_inv hld v0 views sched).cons

/-- once every overlapping run has finished, the lock is free -/
theorem allDone_lock_free {H : Nat → Nat} {prog : Prog} (hld : lockDiscipline prog = true)
    (v0 : Nat) (views : List Nat) (sched : List Nat) :
    let s := run H prog (init H v0 views) sched
    allDone prog s = true → s.sh.owner = none := by
  intro s hdone
  have hinv := reachable_inv (H := H) hld v0 views sched
  cases hown : s.sh.owner with
  | none => rfl
  | some i =>
    exfalso
    have hilt := hinv.own i hown
    have hti : s.ths[i]? = some s.ths[i] := List.getElem?_eq_getElem hilt
    obtain ⟨hle, l, hlmem, hlsem⟩ := hinv.loc i _ hti
    have hfin : finished prog s.ths[i] = true :=
      List.all_eq_true.mp hdone _ (List.getElem_mem hilt)
    simp only [finished, decide_eq_true_eq] at hfin
    have hpc : (s.ths[i]).pc = prog.length := Nat.le_antisymm hle hfin
    rw [hpc] at hlmem
    have := checkAnn_end hld l hlmem
    subst this
    exact hlsem hown

def SoloRel (H : Nat → Nat) (i v : Nat) (σ : SoloAbs) (sh : Shared) : Prop :=
  (σ.hm = true ↔ sh.hashVar = H v) ∧ (σ.lm = true → sh.listVar = v) ∧
  (σ.held = true → sh.owner = some i) ∧ (σ.held = false → sh.owner = none)

theorem soloStep_sim {H : Nat → Nat} {prog : Prog} {i : Nat} {t : Thread} {sh : Shared} {a : Act}
    {σ σ1 : SoloAbs} {pc' : Nat}
    (ha : prog[t.pc]? = some a) (hrel : SoloRel H i t.view σ sh) (hs : soloStep a t.pc σ = some (pc', σ1)) :
    ∃ t1 sh1, stepT H prog i t sh = some (t1, sh1) ∧ t1.pc = pc' ∧ t1.view = t.view ∧
      SoloRel H i t.view σ1 sh1 := by
  obtain ⟨hhm, hlm, hheld, hfree⟩ := hrel
  unfold stepT
  rw [ha]
  clear ha
  revert hs
  fun_cases soloStep a t.pc σ
  · rintro ⟨⟩ -- loadHashCmp
    simp only [← hhm]
    split <;> exact ⟨_, _, rfl, rfl, rfl, hhm, hlm, hheld, hfree⟩
  · rintro ⟨⟩ -- swapHashCmp
    simp only [← hhm]
    split <;> exact ⟨_, _, rfl, rfl, rfl, iff_of_true rfl rfl, hlm, hheld, hfree⟩
  · rintro ⟨⟩ -- storeHash
    exact ⟨_, _, rfl, rfl, rfl, iff_of_true rfl rfl, hlm, hheld, hfree⟩
  · rintro ⟨⟩ -- assignList
    exact ⟨_, _, rfl, rfl, rfl, hhm, fun _ => rfl, hheld, hfree⟩
  · rintro ⟨⟩ -- lock, held: refused
  · rename_i hh -- lock, free
    rintro ⟨⟩
    simp only [if_pos (hfree (Bool.eq_false_iff.mpr hh))]
    exact ⟨_, _, rfl, rfl, rfl, hhm, hlm, fun _ => rfl, fun h => Bool.noConfusion h⟩
  · rename_i hh -- unlock, held
    rintro ⟨⟩
    simp only [if_pos (hheld hh)]
    exact ⟨_, _, rfl, rfl, rfl, hhm, hlm, (fun h => Bool.noConfusion h), fun _ => rfl⟩
  · rintro ⟨⟩ -- unlock, not held: refused

theorem solo_sim {H : Nat → Nat} {prog : Prog} {i : Nat} :
    ∀ (f : Nat) (t : Thread) (sh : Shared) (σ σ' : SoloAbs),
      SoloRel H i t.view σ sh → soloRun prog f t.pc σ = some σ' →
      SoloRel H i t.view σ' (solo H prog i f t sh).2 ∧ (solo H prog i f t sh).1.view = t.view ∧
        prog.length ≤ (solo H prog i f t sh).1.pc := by
  intro f
  induction f with
  | zero =>
    intro t sh σ σ' hrel hrun
    simp only [soloRun, Option.ite_none_right_eq_some, Option.some.injEq] at hrun
    obtain ⟨hle, rfl⟩ := hrun
    exact ⟨hrel, rfl, hle⟩
  | succ f ih =>
    intro t sh σ σ' hrel hrun
    simp only [soloRun] at hrun
    cases ha : prog[t.pc]? with
    | none =>
      simp only [ha, Option.some.injEq] at hrun
      subst hrun
      have hst : stepT H prog i t sh = none := by simp [stepT, ha]
      simp only [solo, hst]
      exact ⟨hrel, trivial, List.getElem?_eq_none_iff.mp ha⟩
    | some a =>
      simp only [ha] at hrun
      cases hs : soloStep a t.pc σ with
      | none => simp [hs] at hrun
      | some r =>
        obtain ⟨pc', σ1⟩ := r
        simp only [hs] at hrun
        obtain ⟨t1, sh1, hst, hpc, hview, hrel1⟩ := soloStep_sim (H := H) (i := i) (sh := sh) ha hrel hs
        simp only [solo, hst]
        rw [← hpc] at hrun
        rw [← hview] at hrel1
        have := ih t1 sh1 σ1 σ' hrel1 hrun
        rw [hview] at this
        exact this

theorem solo_of_consistent {H : Nat → Nat} (hinj : ∀ a b, H a = H b → a = b) {prog : Prog}
    (hsolo : soloConverges prog = true) (i v : Nat) (sh : Shared)
    (hfree : sh.owner = none) (hcons : sh.hashVar = H sh.listVar) :
    let r := (solo H prog i prog.length { view := v, pc := 0 } sh).2
    r.listVar = v ∧ r.hashVar = H v ∧ r.owner = none := by
  intro r
  have hrel : SoloRel H i v { hm := decide (sh.hashVar = H v), lm := decide (sh.hashVar = H v), held := false } sh := by
    refine ⟨by simp, ?_, by simp, fun _ => hfree⟩
    intro h
    simp only [decide_eq_true_eq] at h
    exact hinj _ _ (hcons.symm.trans h)
  -- the abstract run from whichever outcome the first comparison has
  have hb := List.all_eq_true.mp hsolo (decide (sh.hashVar = H v)) (by cases decide (sh.hashVar = H v) <;> simp)
  cases hrun : soloRun prog prog.length 0
      { hm := decide (sh.hashVar = H v), lm := decide (sh.hashVar = H v), held := false } with
  | none => simp [hrun] at hb
  | some σ' =>
    simp only [hrun, Bool.and_eq_true, Bool.not_eq_true'] at hb
    obtain ⟨⟨h1, h2, _, h4⟩, _, _⟩ :=
      solo_sim (H := H) (prog := prog) (i := i) prog.length { view := v, pc := 0 } sh _ σ' hrel hrun
    exact ⟨h2 hb.1.2, h1.mp hb.1.1, h4 hb.2⟩

/-- MAIN THEOREM (any program with the lock discipline whose solo run converges; any number of overlapping runs
with any views under any schedule): whenever the lock is free, one further stabilize run with view `v` leaves
`v` published — list AND hash — and the lock free. -/
theorem repair_restores {H : Nat → Nat} (hinj : ∀ a b, H a = H b → a = b) {prog : Prog}
    (hld : lockDiscipline prog = true) (hsolo : soloConverges prog = true)
    (v0 : Nat) (views : List Nat) (sched : List Nat) (v : Nat) :
    let s := run H prog (init H v0 views) sched
    s.sh.owner = none →
    let r := (repair H prog s v).2
    r.listVar = v ∧ r.hashVar = H v ∧ r.owner = none := by
  intro s hfree
  exact solo_of_consistent hinj hsolo _ v s.sh hfree (hash_names_list_when_unlocked hld v0 views sched hfree)

/-- … in particular after all overlapping runs have finished -/
theorem converges_after_overlap {H : Nat → Nat} (hinj : ∀ a b, H a = H b → a = b) {prog : Prog}
    (hld : lockDiscipline prog = true) (hsolo : soloConverges prog = true)
    (v0 : Nat) (views : List Nat) (sched : List Nat) (v : Nat) :
    let s := run H prog (init H v0 views) sched
    allDone prog s = true → ((repair H prog s v).2).listVar = v := by
  intro s hdone
  exact (repair_restores hinj hld hsolo v0 views sched v (allDone_lock_free hld v0 views sched hdone)).1

/-- `n` further runs with the same view, each executed alone (the quiet period) -/
def rounds (H : Nat → Nat) (prog : Prog) (i v : Nat) : Nat → Shared → Shared
  | 0, sh => sh
  | n + 1, sh => rounds H prog i v n (solo H prog i prog.length { view := v, pc := 0 } sh).2

theorem rounds_fixed {H : Nat → Nat} {prog : Prog} {i v : Nat} {sh : Shared}
    (h : (solo H prog i prog.length { view := v, pc := 0 } sh).2 = sh) : ∀ n, rounds H prog i v n sh = sh := by
  intro n
  induction n with
  | zero => rfl
  | succ n ih => rw [rounds, h, ih]

/-- further rounds with the same view keep it published -/
theorem stays_converged {H : Nat → Nat} (hinj : ∀ a b, H a = H b → a = b) {prog : Prog}
    (hsolo : soloConverges prog = true) (i v : Nat) :
    ∀ (n : Nat) (sh : Shared), sh.owner = none → sh.hashVar = H sh.listVar →
      (rounds H prog i v (n + 1) sh).listVar = v := by
  intro n
  induction n with
  | zero =>
    intro sh hf hc
    exact (solo_of_consistent hinj hsolo i v sh hf hc).1
  | succ n ih =>
    intro sh hf hc
    obtain ⟨h1, h2, h3⟩ := solo_of_consistent hinj hsolo i v sh hf hc
    exact ih _ h3 (by rw [h2, h1])

theorem updateProg_lockDiscipline : lockDiscipline Gen.C02.updateProg = true := by decide +kernel

theorem updateProg_soloConverges : soloConverges Gen.C02.updateProg = true := by decide +kernel

/-- The stabilize of the current source: after ANY overlap of ANY number of runs with ANY views, once they have
finished, one further run with the newest view `v` publishes `v`; the lock is free and the hash names `v`. -/
theorem stabilize_publication_converges {H : Nat → Nat} (hinj : ∀ a b, H a = H b → a = b)
    (v0 : Nat) (views : List Nat) (sched : List Nat) (v : Nat) :
    let s := run H Gen.C02.updateProg (init H v0 views) sched
    allDone Gen.C02.updateProg s = true →
    let r := (repair H Gen.C02.updateProg s v).2
    r.listVar = v ∧ r.hashVar = H v ∧ r.owner = none := by
  intro s hdone
  exact repair_restores hinj updateProg_lockDiscipline updateProg_soloConverges v0 views sched v
    (allDone_lock_free updateProg_lockDiscipline v0 views sched hdone)

theorem lineHash_injective : ∀ a b, lineHash a = lineHash b → a = b := by
  intro a b h; simp only [lineHash] at h; omega

/-- the shape of the current source, fixed here so that the examples do not depend on the generated text -/
def publishUnderLock : Prog := [.loadHashCmp 4, .lock, .storeHash, .assignList, .unlock]

/-- non-vacuity: the hypotheses of the general theorems hold for that shape, and two overlapping runs (older view 1,
newer view 2) in the order "the newer one publishes first, the older one last" do finish and leave the OLDER list
published with ITS hash — the repair round then has work to do and does it. -/
example :
    lockDiscipline publishUnderLock = true ∧ soloConverges publishUnderLock = true ∧
    (let s := run lineHash publishUnderLock (init lineHash 0 [1, 2]) [0, 1, 1, 1, 1, 1, 0, 0, 0, 0]
     allDone publishUnderLock s = true ∧ s.sh = { hashVar := 101, listVar := 1, owner := none } ∧
      (repair lineHash publishUnderLock s 2).2 = { hashVar := 102, listVar := 2, owner := none }) := by
  decide +kernel

/-- non-vacuity of the discipline predicate: a double-checked variant is accepted as well -/
example : lockDiscipline [.loadHashCmp 5, .lock, .loadHashCmp 2, .storeHash, .assignList, .unlock] = true ∧
    soloConverges [.loadHashCmp 5, .lock, .loadHashCmp 2, .storeHash, .assignList, .unlock] = true := by
  decide +kernel

/-- `if succListHash.Swap(listHash) != listHash { Lock; successors = succList; Unlock }` -/
def swapBeforeLock : Prog := [.swapHashCmp 3, .lock, .assignList, .unlock]

/-- executed alone it is fine, but it does not obey the discipline, and two overlapping runs — the older view swaps,
the newer view swaps and publishes, the older view publishes last — end with hash = hash of the NEWER list and
list = the OLDER one; the repair round with the newest view finds "its" hash, changes nothing, and so does every
later round: the node is frozen on the older list. -/
theorem swap_before_lock_freezes :
    soloConverges swapBeforeLock = true ∧ lockDiscipline swapBeforeLock = false ∧
    (let s := run lineHash swapBeforeLock (init lineHash 0 [1, 2]) [0, 1, 1, 1, 1, 0, 0, 0]
     allDone swapBeforeLock s = true ∧ s.sh = { hashVar := 102, listVar := 1, owner := none } ∧
     ∀ n, rounds lineHash swapBeforeLock 2 2 n s.sh = s.sh) := by
  exact ⟨by decide +kernel, by decide +kernel, by decide +kernel, by decide +kernel, rounds_fixed (by decide +kernel)⟩

end Specter.C02.Upd
