import SpecterModel.C02.Steps
import SpecterModel.C06.Props
/-!
# C02 / C03 / C05 — what a completed graceful `Leave()` does to a stable quiescent ring

(every ring size ≥ 2, every id layout, including the two-member ring where predecessor = successor)

`Leave()` ALONE does not give back a `Stable` ring — neither in the model nor in the code it mirrors: the advisory
`FinishLeave(stabilize)` reaches the predecessor while the leaver is still `Leaving` and therefore still answers,
so the predecessor keeps the leaver as first successor, and nobody tells the successor to drop its predecessor
pointer (`leave_breaks_stable`, `leave_lookup_returns_departed`). Exactly these two pointers are off
(`leave_partial`); ONE further `stabilize` tick of the predecessor repairs both, its `Notify` making the successor
adopt it (`leave_then_stabilize_partial`). Fingers may still name the leaver (`FingersOr`; the advisory's own
`fixFinger` can re-learn it): if none does the ring is `Stable` (`leave_then_stabilize_stable`), otherwise lookups
are never wrong but may fail with `ErrNodeGone` (`lookup_after_leave_partial`). The leaver's data is at its
successor, the new owner (`leave_conserves`).

Every net on the way is the ring before, mapped node by node (`Shape`, `tr`): `leave_shape` follows the steps of
the code, `repair_shape` adds the predecessor's next `stabilize` (`rep`); what the nets before and after that repair
have in common is proved once (`survivor`).
-/
namespace Specter.C02.Leave
open Specter.Ring Specter.C01 Specter.C03 Specter.C05 Specter.C06

/-- the part of a node that membership and stability depend on -/
def pview (x : Node) : Bool × Option Nat × Option Nat × List (Option Nat) :=
  ((checkNodeState x false).isNone, x.pred, x.succs.head?, x.fingers)

theorem moduloSum_lt (x y : Nat) : moduloSum x y < M := Ring.moduloSum_lt x y

/-- holds on any stable ring; nothing of a leave is involved -/
theorem fixFinger_keeps_stable (net : Net) (n : Nat) (hs : Stable net) (hn : Mem net n) :
    Stable (fixFinger net n) := by
  have hfo := fixFinger_spec net n (Mem net) (stable_closed net hs) hn
  refine stable_of_view net _ (hfo.map ptrView fun _ _ => rfl) (fun m x' hx' hcx f hf => ?_) hs
  obtain ⟨x, hx, e, hP⟩ := hfo.node m x' hx'
  exact (hP f hf).elim (hs.fingers m x hx (by rw [e] at hcx; exact hcx) f) id

theorem importEntries_nil (st : List KEntry) : importEntries st [] = st := rfl

/-- Node `m` of the ring while / after `l` (predecessor `pre`, successor `succ`) leaves, as a function
of its node `x` before: `sl`, `ss` are the lifecycle states of leaver and successor, `mv` the entries
handed down, `sur` whether the leaver's surrogate is set, `L` / `F` the successor list / finger table
the predecessor rebuilt on the advisory. -/
def tr (l pre succ : Nat) (sl ss : St) (mv : List KEntry) (sur : Bool)
    (L : Option (List Nat)) (F : Option (List (Option Nat))) (m : Nat) (x : Node) : Node :=
  { x with
    state := if m = l then sl else if m = succ then ss else x.state
    store := if m = l then removeKeys x.store mv else if m = succ then importEntries x.store mv else x.store
    surrogate := if m = l ∧ sur = true then some l else x.surrogate
    succs := if m = pre then L.getD x.succs else x.succs
    fingers := if m = pre then F.getD x.fingers else x.fingers }

/-- `cur` is `net` mapped node by node by `T` (unrelated to the clause structure `C02.Shape` of `C02/Join.lean`) -/
def Shape (net cur : Net) (T : Nat → Node → Node) : Prop := ∀ m, cur.get m = (net.get m).map (T m)

theorem Shape.get {net cur : Net} {T : Nat → Node → Node} (h : Shape net cur T) {m : Nat} {x : Node}
    (hx : net.get m = some x) : cur.get m = some (T m x) := by
  rw [h m, hx]; rfl

theorem shape_upd (net cur : Net) (T T' : Nat → Node → Node) (k : Nat) (f : Node → Node)
    (h : Shape net cur T) (hk : ∀ x, T' k x = f (T k x)) (ho : ∀ m x, m ≠ k → T' m x = T m x) :
    Shape net (cur.upd k f) T' := by
  intro m
  rw [get_upd]
  split
  · rename_i e; subst e
    rw [h m, Option.map_map]
    exact congrArg (Option.map · _) (funext fun x => (hk x).symm)
  · rename_i e
    rw [h m]
    exact congrArg (Option.map · _) (funext fun x => (ho m x e).symm)

/-- the situation of a leave: `l` is a live member of a stable quiescent ring with predecessor `pre ≠ l`
and successor `succ ≠ l` -/
structure Ctx (net : Net) (l pre succ : Nat) (nd ndp nds : Node) : Prop where
  hs : Stable net
  hq : Quiescent net
  hg : net.get l = some nd
  hc : checkNodeState nd false = none
  hp : nd.pred = some pre
  hsu : nd.succs.head? = some succ
  hpl : pre ≠ l
  hsl : succ ≠ l
  hgp : net.get pre = some ndp
  hcp : checkNodeState ndp false = none
  hgs : net.get succ = some nds
  hcs : checkNodeState nds false = none

theorem ctx_of (net : Net) (hs : Stable net) (hq : Quiescent net) (l : Nat) (hl : Mem net l)
    (hmore : ∃ m, Mem net m ∧ m ≠ l) : ∃ pre succ nd ndp nds, Ctx net l pre succ nd ndp nds := by
  obtain ⟨nd, hg, hc⟩ := hl
  obtain ⟨m, hm, hml⟩ := hmore
  obtain ⟨pre, hp, ⟨ndp, hgp, hcp⟩, hpmin⟩ := hs.pred l nd hg hc
  obtain ⟨succ, hsu, ⟨nds, hgs, hcs⟩, hsmin⟩ := hs.succ l nd hg hc
  exact ⟨pre, succ, nd, ndp, nds, hs, hq, hg, hc, hp, hsu, fun e => hml ((hpmin m hm).2 e),
    fun e => hml ((hsmin m hm).2 e), hgp, hcp, hgs, hcs⟩

namespace Ctx
variable {net : Net} {l pre succ : Nat} {nd ndp nds : Node}

theorem l_active (c : Ctx net l pre succ nd ndp nds) : nd.state = .active ∧ nd.crashed = false := c.hq.active l nd c.hg c.hc
theorem s_active (c : Ctx net l pre succ nd ndp nds) : nds.state = .active ∧ nds.crashed = false := c.hq.active succ nds c.hgs c.hcs
theorem p_active (c : Ctx net l pre succ nd ndp nds) : ndp.state = .active ∧ ndp.crashed = false := c.hq.active pre ndp c.hgp c.hcp
theorem s_pred (c : Ctx net l pre succ nd ndp nds) : nds.pred = some l :=
  succ_pred_inverse net c.hs l succ nd nds c.hg c.hc c.hsu c.hgs c.hcs
theorem p_succ (c : Ctx net l pre succ nd ndp nds) : ndp.succs.head? = some l :=
  pred_succ_inverse net c.hs l pre nd ndp c.hg c.hc c.hp c.hgp c.hcp

end Ctx

section steps
variable {net : Net} {l pre succ : Nat} {nd ndp nds : Node}

/-- `executeLeave`: both membership locks are taken (`sl`, `ss` of `tr`), everything the leaver holds is handed down
to the successor (`mv`), then the leaver's surrogate pointer is set to itself (`sur`) -/
theorem exec_leave (c : Ctx net l pre succ nd ndp nds) :
    ∃ n3, executeLeave net l = (n3, .ok (some (pre, succ))) ∧
      Shape net n3 (tr l pre succ .leaving .transferring (rangeKeys nd.store 0 0) true none none) := by
  obtain ⟨n1, hl1⟩ := leaveLocks_succeeds net l succ nd nds (Ne.symm c.hsl) c.hg c.l_active.1 c.hgs
    c.s_active.2 c.s_active.1
  obtain ⟨_, _, nds', hgs', _, _, hget⟩ := leaveLocks_ok net n1 l succ hl1
  rw [c.hgs] at hgs'; cases hgs'
  obtain ⟨n2, ht2⟩ : ∃ n2, transferDown n1 l succ nd.store = some n2 :=
    handOver_succeeds n1 l succ _ _ (by rw [hget, if_neg c.hsl, if_pos rfl]) (by simp [checkNodeState, c.s_active.2])
  refine ⟨n2.upd l (fun nd => { nd with surrogate := some l }), ?_, fun m => ?_⟩
  · unfold executeLeave
    have : (pre == l && succ == l) = false := by simp [c.hpl]
    simp only [c.hg, c.hp, c.hsu, this, hl1, ht2]
    rfl
  -- node by node: `get_upd`, `handOver_get` and `hget` turn the left side into `if`s on `m = l`, `m = succ` over the
  -- nodes of `net` (the two locks, the two sides of the transfer, the surrogate); in each case of the split on `m`
  -- that is `tr` of the node
  · simp only [get_upd, handOver_get n1 n2 l succ _ ht2, hget]
    by_cases e1 : m = l
    · subst e1; simp [c.hg, tr, Ne.symm c.hsl]
    · by_cases e2 : m = succ
      · subst e2; simp [e1, c.hgs, tr]
      · cases net.get m <;> simp [tr, e1, e2]

/-- the successor list the predecessor rebuilds on the advisory: it still starts with the leaver
(who is `Leaving`, hence still answering), followed by the leaver's successor -/
def advisedList (l pre : Nat) (nd : Node) : List Nat :=
  cutAfterSelf pre (makeSuccList l nd.succs succEntries)

theorem advisedList_head (l pre : Nat) (nd : Node) : (advisedList l pre nd).head? = some l :=
  cutAfterSelf_head pre _ l (makeSuccList_head l nd.succs succEntries)

theorem advisedList_two (c : Ctx net l pre succ nd ndp nds) : ∃ r, advisedList l pre nd = l :: succ :: r := by
  obtain ⟨tl, hl⟩ := List.head?_eq_some_iff.mp c.hsu
  obtain ⟨r, hr⟩ := makeSuccList_two l succ tl c.hsl
  obtain ⟨r', hr'⟩ := cutAfterSelf_two pre l succ r (Ne.symm c.hpl)
  exact ⟨r', by unfold advisedList; rw [hl, hr, hr']⟩

/-- the advisory's `stabilize` at the predecessor only refreshes its successor list, whose head is still
the leaver (`L`: `none` → `some (advisedList …)`) -/
theorem step_stabilize (c : Ctx net l pre succ nd ndp nds) (n3 : Net)
    (h3 : Shape net n3 (tr l pre succ .leaving .transferring (rangeKeys nd.store 0 0) true none none)) :
    Shape net (stabilize n3 pre)
      (tr l pre succ .leaving .transferring (rangeKeys nd.store 0 0) true (some (advisedList l pre nd)) none) := by
  obtain ⟨rest, hl⟩ := List.head?_eq_some_iff.mp c.p_succ
  have hgp3 := h3.get c.hgp
  have hgl3 := h3.get c.hg
  rw [stabilize_live_head n3 pre l _ _ rest hgp3 (by simp [tr, hl]) hgl3
    (by simp [tr, checkNodeState, c.l_active.2]) (by simp [tr, c.hp])]
  apply shape_upd net n3 _ _ pre _ h3
  · intro x; simp [tr, advisedList, c.hpl]
  · intro m x e; simp [tr, e]

/-- the advisory `FinishLeave(stabilize)` at the predecessor: `stabilize`, then `fixFinger` (`F`: `none` → `some F`) -/
theorem step_advisory (c : Ctx net l pre succ nd ndp nds) (n3 : Net)
    (h3 : Shape net n3 (tr l pre succ .leaving .transferring (rangeKeys nd.store 0 0) true none none)) :
    ∃ F : List (Option Nat), (∀ f, some f ∈ F → Mem net f) ∧
      Shape net (finish n3 pre true false)
        (tr l pre succ .leaving .transferring (rangeKeys nd.store 0 0) true (some (advisedList l pre nd)) (some F)) := by
  have h4 := step_stabilize c n3 h3
  have hgp3 := h3.get c.hgp
  rw [finish_advise n3 pre _ hgp3 c.p_active.2]
  -- in flight, the pointers a lookup follows still lead to old members only
  have hcl : ClosedP (stabilize n3 pre) (Mem net) := by
    intro m ⟨x, hx, hcx⟩ y hy _
    rw [h4 m, hx] at hy; injection hy with hy; subst hy
    refine ⟨fun t ht => ?_, fun f hf => c.hs.fingers m x hx hcx f (by simpa [tr] using hf)⟩
    by_cases e : m = pre
    · have : t = l := by simpa [tr, e, advisedList_head] using ht.symm
      rw [this]; exact ⟨nd, c.hg, c.hc⟩
    · exact (c.hs.succ_first hx hcx (by simpa [tr, e] using ht)).1
  obtain ⟨F, hF, hget⟩ := (fixFinger_spec _ pre (Mem net) hcl ⟨ndp, c.hgp, c.hcp⟩).get
  refine ⟨F, fun f hf => ?_, ?_⟩
  · rcases hF f hf with ⟨y, hy, h1⟩ | h1
    · rw [h4 pre, c.hgp] at hy; injection hy with hy; subst hy
      exact c.hs.fingers pre ndp c.hgp c.hcp f (by simpa [tr] using h1)
    · exact h1
  · refine fun m => (hget m).trans (shape_upd net _ _ _ pre _ h4 ?_ ?_ m)
    · intro x; simp [tr, c.hpl]
    · intro m x e; simp [tr, e]

/-- **What a completed `Leave()` does, node by node.** The leaver ends `Left` with its data handed down and
its surrogate pointing at itself; the successor has imported the data and is `Active` again; the
predecessor has a refreshed successor list (STILL headed by the leaver) and a refreshed finger table
(all old members); every other field of every node is as before. -/
theorem leave_shape (c : Ctx net l pre succ nd ndp nds) :
    ∃ F : List (Option Nat), (∀ f, some f ∈ F → Mem net f) ∧
      (leave net l).2 = none ∧
      Shape net (leave net l).1
        (tr l pre succ .left .active (rangeKeys nd.store 0 0) true (some (advisedList l pre nd)) (some F)) := by
  obtain ⟨n3, hex, h3⟩ := exec_leave c
  obtain ⟨F, hF, h4⟩ := step_advisory c n3 h3
  refine ⟨F, hF, ?_⟩
  have hrel := finish_release ((finish n3 pre true false).upd l fun nd => { nd with state := .left }) succ _
    ((get_upd_other _ _ _ _ c.hsl).trans (h4.get c.hgs)) (by simp [tr, c.s_active.2, c.hsl])
  have hlv : leave net l =
      (finish ((finish n3 pre true false).upd l (fun nd => { nd with state := .left })) succ false true, none) := by
    unfold leave
    have p1 : (pre != l) = true := by simpa using c.hpl
    have p2 : (succ != l) = true := by simpa using c.hsl
    simp only [c.hg, c.l_active.1, hex, p1, p2, if_true]
  rw [hlv, hrel]
  -- node by node: `get_upd` and `h4` turn the left side into the leaver's own state change (`sl`: `.leaving` → `.left`)
  -- and the release of the successor's lock (`ss`: `.transferring` → `.active`) on top of `tr` of the node, by `if`s on
  -- `m = l`, `m = succ`; the split on `m` decides them
  refine ⟨rfl, fun m => ?_⟩
  simp only [get_upd, h4 _]
  by_cases e1 : m = l
  · subst e1; simp [c.hg, tr, Ne.symm c.hsl]
  · by_cases e2 : m = succ
    · subst e2; simp [e1, c.hgs, tr]
    · cases net.get m <;> simp [tr, e1, e2]

end steps

/-- every finger of every live member is a live member or the departed node `l` -/
def FingersOr (net : Net) (l : Nat) : Prop :=
  ∀ n nd, net.get n = some nd → checkNodeState nd false = none →
    ∀ f, some f ∈ nd.fingers → Mem net f ∨ f = l

theorem stable_of_ptrStable (net : Net) (l : Nat) (hp : PtrStable net) (hf : FingersOr net l)
    (hno : ∀ n nd, net.get n = some nd → checkNodeState nd false = none → some l ∉ nd.fingers) :
    Stable net :=
  ⟨hp.lt, hp.pred, hp.succ, fun n nd hg hc f hfm =>
    (hf n nd hg hc f hfm).resolve_right fun h => hno n nd hg hc (h ▸ hfm)⟩

namespace Ctx
variable {net : Net} {l pre succ : Nat} {nd ndp nds : Node}

theorem lM (c : Ctx net l pre succ nd ndp nds) : l < M := c.hs.lt l ⟨nd, c.hg, c.hc⟩
theorem pM (c : Ctx net l pre succ nd ndp nds) : pre < M := c.hs.lt pre ⟨ndp, c.hgp, c.hcp⟩
theorem sM (c : Ctx net l pre succ nd ndp nds) : succ < M := c.hs.lt succ ⟨nds, c.hgs, c.hcs⟩

theorem cw_l (c : Ctx net l pre succ nd ndp nds) : cw l pre < cw succ pre :=
  Nat.lt_of_le_of_ne ((c.hs.pred_first c.hg c.hc c.hp).2 succ ⟨nds, c.hgs, c.hcs⟩)
    fun e => c.hsl (cw_inj pre l succ c.pM c.lM c.sM e).symm

theorem between_l (c : Ctx net l pre succ nd ndp nds) : between pre l succ false = true :=
  (between_open_iff_cw pre l succ c.pM c.lM c.sM).mpr c.cw_l

theorem gap (c : Ctx net l pre succ nd ndp nds) (q : Nat) (hq : Mem net q) (hql : q ≠ l) :
    ¬ (0 < dist pre q ∧ dist pre q < dist pre succ) ∧ (pre = succ → q = succ) := by
  have hqM := c.hs.lt q hq
  rw [gap_iff_cw pre succ q c.pM c.sM hqM]
  -- going clockwise from `pre`, `q` comes after `l`; going on from `l`, it does not come before `succ`
  have h1 : cw l pre < cw q pre := Nat.lt_of_le_of_ne ((c.hs.pred_first c.hg c.hc c.hp).2 q hq)
    fun e => hql (cw_inj pre l q c.pM c.lM hqM e).symm
  have h2 := (c.hs.succ_first c.hg c.hc c.hsu).2 q hq
  rw [cw_eq_cw_sub pre l succ c.pM c.lM c.sM c.cw_l, cw_eq_cw_sub pre l q c.pM c.lM hqM h1] at h2
  exact Nat.le_of_sub_le_sub_right (Nat.le_of_lt h1) h2

theorem pred_l_unique (c : Ctx net l pre succ nd ndp nds) (m : Nat) (x : Node) (hx : net.get m = some x)
    (hcx : checkNodeState x false = none) (h : x.pred = some l) : m = succ := by
  have := pred_succ_inverse net c.hs m l x nd hx hcx h c.hg c.hc
  rw [c.hsu] at this; injection this with this; exact this.symm

theorem succ_l_unique (c : Ctx net l pre succ nd ndp nds) (m : Nat) (x : Node) (hx : net.get m = some x)
    (hcx : checkNodeState x false = none) (h : x.succs.head? = some l) : m = pre := by
  have := succ_pred_inverse net c.hs m l x nd hx hcx h c.hg c.hc
  rw [c.hp] at this; injection this with this; exact this.symm

end Ctx

/-- node transformer of a completed leave (`F` = the finger table the predecessor rebuilt) -/
abbrev leftT (l pre succ : Nat) (nd : Node) (F : List (Option Nat)) : Nat → Node → Node :=
  tr l pre succ .left .active (rangeKeys nd.store 0 0) true (some (advisedList l pre nd)) (some F)

section after
variable {net : Net} {l pre succ : Nat} {nd ndp nds : Node}

theorem left_fields (c : Ctx net l pre succ nd ndp nds) (F : List (Option Nat)) (m : Nat) (x : Node)
    (hx : net.get m = some x) (hm : m ≠ l) :
    (leftT l pre succ nd F m x).state = x.state ∧ (leftT l pre succ nd F m x).crashed = x.crashed ∧
    (leftT l pre succ nd F m x).pred = x.pred ∧ (leftT l pre succ nd F m x).surrogate = x.surrogate ∧
    (leftT l pre succ nd F m x).succs.head? = x.succs.head? ∧
    (leftT l pre succ nd F m x).fingers = (if m = pre then F else x.fingers) := by
  have hst : (if m = succ then St.active else x.state) = x.state := by
    by_cases e : m = succ
    · subst e; rw [c.hgs] at hx; injection hx with hx; subst hx; simp [c.s_active.1]
    · simp [e]
  have hhd : (if m = pre then advisedList l pre nd else x.succs).head? = x.succs.head? := by
    by_cases e : m = pre
    · subst e; rw [c.hgp] at hx; injection hx with hx; subst hx; simp [advisedList_head, c.p_succ]
    · simp [e]
  refine ⟨?_, rfl, rfl, ?_, ?_, ?_⟩
  · simpa [tr, hm] using hst
  · simp [tr, hm]
  · simpa [tr] using hhd
  · simp [tr]

theorem left_live (c : Ctx net l pre succ nd ndp nds) (F : List (Option Nat)) (m : Nat) (x : Node)
    (hx : net.get m = some x) (hm : m ≠ l) (b : Bool) :
    checkNodeState (leftT l pre succ nd F m x) b = checkNodeState x b := by
  obtain ⟨h1, h2, _⟩ := left_fields c F m x hx hm
  exact checkNodeState_congr h1 h2 b

theorem left_dead (l pre succ : Nat) (nd : Node) (F : List (Option Nat)) (x : Node) (b : Bool) :
    checkNodeState (leftT l pre succ nd F l x) b ≠ none := by
  unfold checkNodeState
  by_cases hcr : x.crashed = true <;> simp [tr, hcr]

section survivors
/- The nets after the leave, before and after the predecessor's repairing `stabilize`, are `leftT` followed by
some `R` that touches neither state nor reachability of any node. -/
variable (c : Ctx net l pre succ nd ndp nds) (F : List (Option Nat)) (R : Nat → Node → Node)
  (hR : ∀ m y, (R m y).state = y.state ∧ (R m y).crashed = y.crashed)
  (cur : Net) (h : Shape net cur (fun m x => R m (leftT l pre succ nd F m x)))
include c hR h

theorem survivor (m : Nat) (y : Node) (hy : cur.get m = some y) (hcy : checkNodeState y false = none) :
    ∃ x, net.get m = some x ∧ checkNodeState x false = none ∧ m ≠ l ∧ y = R m (leftT l pre succ nd F m x) := by
  obtain ⟨x, hx, rfl⟩ := Option.map_eq_some_iff.mp ((h m).symm.trans hy)
  have hcy : checkNodeState (leftT l pre succ nd F m x) false = none :=
    checkNodeState_congr (hR m _).1 (hR m _).2 false ▸ hcy
  have hml : m ≠ l := fun e => left_dead l pre succ nd F x false (e ▸ hcy)
  exact ⟨x, hx, by rw [← left_live c F m x hx hml false]; exact hcy, hml, rfl⟩

theorem survivor_mem (m : Nat) : Mem cur m ↔ (Mem net m ∧ m ≠ l) := by
  constructor
  · rintro ⟨y, hy, hcy⟩
    obtain ⟨x, hx, hcx, hml, _⟩ := survivor c F R hR cur h m y hy hcy
    exact ⟨⟨x, hx, hcx⟩, hml⟩
  · rintro ⟨⟨x, hx, hcx⟩, hml⟩
    refine ⟨_, h.get hx, ?_⟩
    rw [← left_live c F m x hx hml false] at hcx
    exact (checkNodeState_congr (hR m _).1 (hR m _).2 false).trans hcx

theorem survivor_active (m : Nat) (y : Node) (hy : cur.get m = some y) (hcy : checkNodeState y false = none) :
    y.state = .active ∧ y.crashed = false := by
  obtain ⟨x, hx, hcx, hml, rfl⟩ := survivor c F R hR cur h m y hy hcy
  obtain ⟨h1, h2, _⟩ := left_fields c F m x hx hml
  rw [(hR m _).1, (hR m _).2, h1, h2]; exact c.hq.active m x hx hcx

theorem survivor_fingers (hF : ∀ f, some f ∈ F → Mem net f) (hfi : ∀ m y, (R m y).fingers = y.fingers) :
    FingersOr cur l := by
  intro m y hy hcy f hf
  obtain ⟨x, hx, hcx, hml, rfl⟩ := survivor c F R hR cur h m y hy hcy
  obtain ⟨_, _, _, _, _, hfingers⟩ := left_fields c F m x hx hml
  rw [hfi, hfingers] at hf
  have hold : Mem net f := by
    split at hf
    · exact hF f hf
    · exact c.hs.fingers m x hx hcx f hf
  by_cases e : f = l
  · exact Or.inr e
  · exact Or.inl ((survivor_mem c F R hR cur h f).mpr ⟨hold, e⟩)

end survivors

theorem after_quiescent (c : Ctx net l pre succ nd ndp nds) (F : List (Option Nat)) (net' : Net)
    (h : Shape net net' (leftT l pre succ nd F)) : Quiescent net' := by
  refine ⟨survivor_active c F (fun _ y => y) (fun _ _ => ⟨rfl, rfl⟩) net' h, fun m y hy hcy => ?_⟩
  obtain ⟨x, hx, hcx, hml, rfl⟩ := survivor c F (fun _ y => y) (fun _ _ => ⟨rfl, rfl⟩) net' h m y hy hcy
  obtain ⟨_, _, h3, h4, _⟩ := left_fields c F m x hx hml
  rw [h3, h4]; exact c.hq.surrogate m x hx hcx

end after

/-- what the predecessor's next `stabilize` changes: its own successor list (now headed by `succ`) and,
through `Notify`, predecessor and surrogate of `succ` -/
def rep (pre succ : Nat) (L2 : List Nat) (m : Nat) (x : Node) : Node :=
  { x with
    succs := if m = pre then L2 else x.succs
    pred := if m = succ then some pre else x.pred
    surrogate := if m = succ then (if pre == succ then none else some pre) else x.surrogate }

section repair
variable {net : Net} {l pre succ : Nat} {nd ndp nds : Node}

theorem repair_shape (c : Ctx net l pre succ nd ndp nds) (net' : Net) (hlv : leave net l = (net', none)) :
    ∃ F L2, (∀ f, some f ∈ F → Mem net f) ∧ L2.head? = some succ ∧
      Shape net (stabilize net' pre) (fun m x => rep pre succ L2 m (leftT l pre succ nd F m x)) := by
  obtain ⟨F, hF, _, h⟩ := leave_shape c
  rw [hlv] at h
  obtain ⟨r, hr⟩ := advisedList_two c
  have hgp' := h.get c.hgp
  have hgs' := h.get c.hgs
  have hgl' := h.get c.hg
  have hcn : checkNodeState (leftT l pre succ nd F pre ndp) true = none := by
    rw [left_live c F pre ndp c.hgp c.hpl true]; simp [checkNodeState, c.p_active.1, c.p_active.2]
  have hsuccs : (leftT l pre succ nd F pre ndp).succs = l :: succ :: r := by simp [tr, hr]
  have hcs' : checkNodeState (leftT l pre succ nd F succ nds) false = none := by
    rw [left_live c F succ nds c.hgs c.hsl false]; exact c.hcs
  have hpd : (leftT l pre succ nd F succ nds).pred = some l := c.s_pred
  have e := stabilize_dead_head net' pre l succ _ _ _ r hgp' hcn hsuccs (Ne.symm c.hpl) hgl'
    (left_dead l pre succ nd F nd) hgs' hcs' hpd c.between_l
  refine ⟨F, cutAfterSelf pre (makeSuccList succ (leftT l pre succ nd F succ nds).succs succEntries), hF,
    cutAfterSelf_head pre _ succ (makeSuccList_head succ _ succEntries), ?_⟩
  rw [e]
  -- the two updates of `stabilize_dead_head`, one after the other: first the `succs` clause of `rep` alone
  apply shape_upd net _ (fun m x => { leftT l pre succ nd F m x with
      succs := if m = pre then cutAfterSelf pre (makeSuccList succ (leftT l pre succ nd F succ nds).succs succEntries)
        else (leftT l pre succ nd F m x).succs }) _ succ
  · apply shape_upd net net' _ _ pre _ h
    · intro x; simp
    · intro m x e; simp [e]
  · intro x; simp [rep]
  · intro m x e; simp [rep, e]

theorem rep_live (L2 : List Nat) (m : Nat) (y : Node) (b : Bool) :
    checkNodeState (rep pre succ L2 m y) b = checkNodeState y b := rfl

/-- **The ring after a leave and the predecessor's next `stabilize`** (`h`: its node-by-node description) is
pointer-stable and quiescent, its members are the old ones without `l`, its fingers name members or `l`. -/
theorem repaired (c : Ctx net l pre succ nd ndp nds) (F : List (Option Nat)) (hF : ∀ f, some f ∈ F → Mem net f)
    (L2 : List Nat) (hL2 : L2.head? = some succ) (net2 : Net)
    (h : Shape net net2 (fun m x => rep pre succ L2 m (leftT l pre succ nd F m x))) :
    PtrStable net2 ∧ Quiescent net2 ∧ (∀ m, Mem net2 m ↔ (Mem net m ∧ m ≠ l)) ∧ FingersOr net2 l := by
  have hR : ∀ m y, (rep pre succ L2 m y).state = y.state ∧ (rep pre succ L2 m y).crashed = y.crashed :=
    fun _ _ => ⟨rfl, rfl⟩
  have memeq := survivor_mem c F _ hR net2 h
  have key := survivor c F _ hR net2 h
  have hpm : Mem net2 pre := (memeq pre).mpr ⟨⟨ndp, c.hgp, c.hcp⟩, c.hpl⟩
  have hsm : Mem net2 succ := (memeq succ).mpr ⟨⟨nds, c.hgs, c.hcs⟩, c.hsl⟩
  refine ⟨⟨?_, ?_, ?_⟩, ⟨survivor_active c F _ hR net2 h, ?_⟩, memeq,
    survivor_fingers c F _ hR net2 h hF (fun _ _ => rfl)⟩
  · intro m hm; exact c.hs.lt m ((memeq m).mp hm).1
  · -- predecessors
    intro m y hy hcy
    obtain ⟨x, hx, hcx, hml, rfl⟩ := key m y hy hcy
    obtain ⟨_, _, h3, _⟩ := left_fields c F m x hx hml
    by_cases e : m = succ
    · subst e
      refine ⟨pre, by simp [rep], hpm, fun q hq => ?_⟩
      obtain ⟨hq1, hq2⟩ := (memeq q).mp hq
      exact c.gap q hq1 hq2
    · obtain ⟨p, hp, hpmem, hmin⟩ := c.hs.pred m x hx hcx
      have hpl : p ≠ l := fun e' => e (c.pred_l_unique m x hx hcx (by rw [hp, e']))
      refine ⟨p, by simp [rep, e, h3, hp], (memeq p).mpr ⟨hpmem, hpl⟩, fun q hq => hmin q ((memeq q).mp hq).1⟩
  · -- successors
    intro m y hy hcy
    obtain ⟨x, hx, hcx, hml, rfl⟩ := key m y hy hcy
    obtain ⟨_, _, _, _, h5, _⟩ := left_fields c F m x hx hml
    by_cases e : m = pre
    · subst e
      refine ⟨succ, by simp [rep, hL2], hsm, fun q hq => ?_⟩
      obtain ⟨hq1, hq2⟩ := (memeq q).mp hq
      have := c.gap q hq1 hq2
      exact ⟨this.1, fun e' => by rw [← e']; exact this.2 e'.symm⟩
    · obtain ⟨s, hsu, hsmem, hmin⟩ := c.hs.succ m x hx hcx
      have hsl : s ≠ l := fun e' => e (c.succ_l_unique m x hx hcx (by rw [hsu, e']))
      refine ⟨s, ?_, (memeq s).mpr ⟨hsmem, hsl⟩, fun q hq => hmin q ((memeq q).mp hq).1⟩
      have : (rep pre succ L2 m (leftT l pre succ nd F m x)).succs = (leftT l pre succ nd F m x).succs := by
        simp [rep, e]
      rw [this, h5, hsu]
  · -- surrogates
    intro m y hy hcy
    obtain ⟨x, hx, hcx, hml, rfl⟩ := key m y hy hcy
    obtain ⟨_, _, h3, h4, _⟩ := left_fields c F m x hx hml
    by_cases e : m = succ
    · subst e
      by_cases e2 : pre = m
      · left; simp [rep, e2]
      · right; simp [rep, e2]
    · have := c.hq.surrogate m x hx hcx
      simpa [rep, e, h3, h4] using this

end repair

/-- Lookups with stale fingers: on a ring whose predecessor/successor pointers are right and whose
fingers name live members or one departed node `l` (present, answering `ErrNodeGone`), a lookup from any
member for any key returns the key's owner, or — when the route uses a stale finger — fails with the
(retryable at the KV layer) `ErrNodeGone`. It never returns a wrong node and never diverges. -/
theorem lookup_tolerates_stale (net : Net) (l : Nat) (hp : PtrStable net) (hf : FingersOr net l) (hlM : l < M)
    (hdead : ∃ ndl, net.get l = some ndl ∧ checkNodeState ndl false = some .gone)
    (n key : Nat) (hn : Mem net n) (hk : key < M) :
    ∃ fuel, (∃ o, findSucc net fuel n key = .found o ∧ IsOwner net key o) ∨
            findSucc net fuel n key = .err .gone := by
  obtain ⟨fuel, h⟩ := lookup_owner_or_stale net (· = l) hp hf (fun _ e => e ▸ hlM) n key hn hk
  refine ⟨fuel, h.imp_right ?_⟩
  rintro ⟨g, rfl, hg⟩
  obtain ⟨ndl, hgl, hcl⟩ := hdead
  rw [hg]; exact findSucc_dead net 0 g key ndl .gone hgl hcl

/-- **Leave, part 1 (PARTIAL: `Stable` of the result is false, see the head of the file).** On a stable quiescent ring with at
least two members a graceful leave of any member succeeds at the first attempt; every surviving node keeps its
state, predecessor, first successor and surrogate, so exactly two pointers are off: the predecessor's successor
and the successor's predecessor still name the leaver. -/
theorem leave_partial (net : Net) (hs : Stable net) (hq : Quiescent net) (l : Nat) (hl : Mem net l)
    (hmore : ∃ m, Mem net m ∧ m ≠ l) :
    (leave net l).2 = none ∧
    Quiescent (leave net l).1 ∧ ¬ Mem (leave net l).1 l ∧
    (∀ m, Mem (leave net l).1 m ↔ (Mem net m ∧ m ≠ l)) ∧
    (∀ m x, net.get m = some x → m ≠ l → ∃ x', (leave net l).1.get m = some x' ∧
        x'.state = x.state ∧ x'.crashed = x.crashed ∧ x'.pred = x.pred ∧ x'.surrogate = x.surrogate ∧
        x'.succs.head? = x.succs.head?) ∧
    FingersOr (leave net l).1 l := by
  obtain ⟨pre, succ, nd, ndp, nds, c⟩ := ctx_of net hs hq l hl hmore
  obtain ⟨F, hF, hok, hsh⟩ := leave_shape c
  have memeq := survivor_mem c F (fun _ y => y) (fun _ _ => ⟨rfl, rfl⟩) _ hsh
  refine ⟨hok, after_quiescent c F _ hsh, fun h => ((memeq l).mp h).2 rfl, memeq, ?_,
    survivor_fingers c F (fun _ y => y) (fun _ _ => ⟨rfl, rfl⟩) _ hsh hF (fun _ _ => rfl)⟩
  intro m x hx hml
  obtain ⟨h1, h2, h3, h4, h5, _⟩ := left_fields c F m x hx hml
  exact ⟨_, hsh.get hx, h1, h2, h3, h4, h5⟩

/-- `leave_partial` with the result given as `leave net l = (net', none)` -/
theorem leave_partial' (net : Net) (hs : Stable net) (hq : Quiescent net) (l : Nat) (hl : Mem net l)
    (hmore : ∃ m, Mem net m ∧ m ≠ l) (net' : Net) (h : leave net l = (net', none)) :
    Quiescent net' ∧ ¬ Mem net' l ∧ (∀ m, Mem net' m ↔ (Mem net m ∧ m ≠ l)) ∧ FingersOr net' l := by
  have := leave_partial net hs hq l hl hmore
  rw [h] at this
  exact ⟨this.2.1, this.2.2.1, this.2.2.2.1, this.2.2.2.2.2⟩

/-- the leaver's predecessor pointer (the node whose next `stabilize` completes the repair) -/
def predOf (net : Net) (l : Nat) : Nat := ((net.get l).bind (·.pred)).getD l

/-- **Leave, part 2 (PARTIAL: finger clause weakened).** After a graceful leave and ONE further `stabilize`
at the leaver's predecessor (its next periodic tick) the ring is pointer-stable and quiescent again.
Missing for `Stable`: fingers to the leaver held by survivors are not yet replaced (that is the job of
later `fixFinger` rounds; under `Stable`'s weak finger hypothesis a stale finger can even persist
through any number of rounds, see `stale_finger_persists`). -/
theorem leave_then_stabilize_partial (net : Net) (hs : Stable net) (hq : Quiescent net) (l : Nat) (hl : Mem net l)
    (hmore : ∃ m, Mem net m ∧ m ≠ l) (net' : Net) (h : leave net l = (net', none)) :
    PtrStable (stabilize net' (predOf net l)) ∧ Quiescent (stabilize net' (predOf net l)) ∧
    ¬ Mem (stabilize net' (predOf net l)) l ∧
    (∀ m, Mem (stabilize net' (predOf net l)) m ↔ (Mem net m ∧ m ≠ l)) ∧
    FingersOr (stabilize net' (predOf net l)) l := by
  obtain ⟨pre, succ, nd, ndp, nds, c⟩ := ctx_of net hs hq l hl hmore
  obtain ⟨F, L2, hF, hL2, hsh2⟩ := repair_shape c net' h
  rw [show predOf net l = pre by unfold predOf; simp [c.hg, c.hp]]
  obtain ⟨h1, h2, h3, h4⟩ := repaired c F hF L2 hL2 _ hsh2
  exact ⟨h1, h2, fun hm => ((h3 l).mp hm).2 rfl, h3, h4⟩

/-- **Leave, full strength when no stale finger remains**: if in that ring no live node holds a finger
to the leaver, the ring is `Stable` (and quiescent, with the leaver gone). `hno` fails right after `Leave()` +
`stabilize` as soon as the predecessor has a finger table: its advisory `fixFinger` ran while the leaver still
answered and re-learned it as finger 1 (`hno_fails` in `C03/RefineDemo.lean`); the inductive step for departures
that is used is `C03.Refine.leave_repair_keeps_abs`. -/
theorem leave_then_stabilize_stable (net : Net) (hs : Stable net) (hq : Quiescent net) (l : Nat) (hl : Mem net l)
    (hmore : ∃ m, Mem net m ∧ m ≠ l) (net' : Net) (h : leave net l = (net', none))
    (hno : ∀ n nd, (stabilize net' (predOf net l)).get n = some nd → checkNodeState nd false = none →
      some l ∉ nd.fingers) :
    Stable (stabilize net' (predOf net l)) ∧ Quiescent (stabilize net' (predOf net l)) ∧
    ¬ Mem (stabilize net' (predOf net l)) l ∧
    (∀ m, Mem (stabilize net' (predOf net l)) m ↔ (Mem net m ∧ m ≠ l)) := by
  obtain ⟨h1, h2, h3, h4, h5⟩ := leave_then_stabilize_partial net hs hq l hl hmore net' h
  exact ⟨stable_of_ptrStable _ l h1 h5 hno, h2, h3, h4⟩

/-- **Lookups after a leave (PARTIAL: may fail with `ErrNodeGone`, never wrong).** On the ring after the
leave and the predecessor's `stabilize`, a lookup from any remaining member for any key returns the
key's owner among the remaining members, or fails with `ErrNodeGone` when the route crosses a finger
that still names the leaver. -/
theorem lookup_after_leave_partial (net : Net) (hs : Stable net) (hq : Quiescent net) (l : Nat) (hl : Mem net l)
    (hmore : ∃ m, Mem net m ∧ m ≠ l) (net' : Net) (h : leave net l = (net', none))
    (n key : Nat) (hn : Mem net n) (hnl : n ≠ l) (hk : key < M) :
    ∃ fuel, (∃ o, findSucc (stabilize net' (predOf net l)) fuel n key = .found o ∧
                  IsOwner (stabilize net' (predOf net l)) key o) ∨
            findSucc (stabilize net' (predOf net l)) fuel n key = .err .gone := by
  obtain ⟨pre, succ, nd, ndp, nds, c⟩ := ctx_of net hs hq l hl hmore
  obtain ⟨F, L2, hF, hL2, hsh2⟩ := repair_shape c net' h
  rw [show predOf net l = pre by unfold predOf; simp [c.hg, c.hp]]
  obtain ⟨h1, _, h4, h5⟩ := repaired c F hF L2 hL2 _ hsh2
  -- the leaver is still present, and `Left`
  refine lookup_tolerates_stale _ l h1 h5 c.lM ?_ n key ((h4 n).mpr ⟨hn, hnl⟩) hk
  refine ⟨_, hsh2.get c.hg, ?_⟩
  rw [rep_live]
  simp [checkNodeState, tr, c.l_active.2]

/-- **Conservation of a leave.** After a graceful leave on a stable quiescent ring:
(1) the leaver's store holds no data any more (only tombstones may remain);
(2) the store of its successor `succ` — the new owner of the leaver's range, a live member — is exactly
    `Import(old store, data entries of the leaver)`; when keys are distinct within the leaver's store and no
    key lives on both nodes (the placement invariant of C05: each key lives only on its owner), every data
    entry of the leaver arrives with the same key, hash, simple value and children set (`importedEntry`,
    `importedEntry_faithful`), and every old entry of the successor stays;
(3) no other node's store changes. -/
theorem leave_conserves (net : Net) (hs : Stable net) (hq : Quiescent net) (l : Nat) (hl : Mem net l)
    (hmore : ∃ m, Mem net m ∧ m ≠ l) (net' : Net) (h : leave net l = (net', none)) :
    ∃ succ nd nds, net.get l = some nd ∧ nd.succs.head? = some succ ∧ succ ≠ l ∧ net.get succ = some nds ∧
      (∃ ndl', net'.get l = some ndl' ∧ ∀ e ∈ ndl'.store, e.isDeleted = true) ∧
      (∃ nds', net'.get succ = some nds' ∧ checkNodeState nds' false = none ∧
        nds'.store = importEntries nds.store (rangeKeys nd.store 0 0) ∧
        (∀ e ∈ nds'.store, (∃ e0 ∈ nds.store, e0.key = e.key ∧ e0.hash = e.hash) ∨
            (∃ m ∈ nd.store, m.isDeleted = false ∧ m.key = e.key ∧ m.hash = e.hash)) ∧
        ((nd.store.map (·.key)).Nodup →
          (∀ e ∈ nds.store, ∀ m ∈ nd.store, m.isDeleted = false → e.key ≠ m.key) →
          (∀ e ∈ nd.store, e.isDeleted = false → importedEntry e ∈ nds'.store) ∧
          (∀ e ∈ nds.store, e ∈ nds'.store))) ∧
      (∀ m, m ≠ l → m ≠ succ → (net'.get m).map (·.store) = (net.get m).map (·.store)) := by
  obtain ⟨pre, succ, nd, ndp, nds, c⟩ := ctx_of net hs hq l hl hmore
  obtain ⟨F, hF, _, hsh⟩ := leave_shape c
  rw [h] at hsh
  refine ⟨succ, nd, nds, c.hg, c.hsu, c.hsl, c.hgs, ?_, ?_, ?_⟩
  · exact ⟨_, hsh.get c.hg, fun e he => removeKeys_whole nd.store e (by simpa [tr] using he)⟩
  · have hst : (leftT l pre succ nd F succ nds).store = importEntries nds.store (rangeKeys nd.store 0 0) := by
      simp [tr, c.hsl]
    refine ⟨_, hsh.get c.hgs, (left_live c F succ nds c.hgs c.hsl false).trans c.hcs, hst, ?_, ?_⟩
    · intro e he
      rw [hst] at he
      rcases mem_importEntries _ _ e he with h1 | ⟨m, hm, hk, hh⟩
      · left; exact h1
      · right
        obtain ⟨hm1, _, hm3⟩ := (mem_rangeKeys _ _ _ _).mp hm
        exact ⟨m, hm1, hm3, hk, hh⟩
    · intro hnd hfresh
      have hfresh' : ∀ e ∈ nds.store, ∀ m ∈ rangeKeys nd.store 0 0, e.key ≠ m.key := by
        intro e he m hm
        obtain ⟨hm1, _, hm3⟩ := (mem_rangeKeys _ _ _ _).mp hm
        exact hfresh e he m hm1 hm3
      constructor
      · intro e he hd
        rw [hst]
        exact import_delivers _ _ (filter_keys_nodup hnd _) hfresh' e
          ((mem_rangeKeys _ _ _ _).mpr ⟨he, between_self 0 _, hd⟩)
      · intro e he
        rw [hst]
        exact import_keeps_others _ _ e he (fun m hm hk => hfresh' e he m hm hk.symm)
  · intro m hml hms
    rw [hsh m]
    cases net.get m with
    | none => rfl
    | some x => simp [tr, hml, hms]

/-- a stable quiescent three-node ring with data on every node; node 20 holds one data key ("b", with a
child) and one tombstone ("d") -/
def ringL : Net :=
  [(10, { state := .active, pred := some 30, succs := [20, 30, 10], fingers := List.replicate 48 (some 20),
          store := [⟨"a", 5, some "v", []⟩] }),
   (20, { state := .active, pred := some 10, succs := [30, 10, 20], fingers := List.replicate 48 (some 30),
          store := [⟨"b", 15, some "w", ["c"]⟩, ⟨"d", 18, none, []⟩] }),
   (30, { state := .active, pred := some 20, succs := [10, 20, 30], fingers := List.replicate 48 (some 10),
          store := [⟨"e", 25, some "x", []⟩] })]

/-- the hypotheses of all theorems above hold for `ringL` and the leaver 20, and the leave succeeds -/
example : Stable ringL ∧ Quiescent ringL ∧ Mem ringL 20 ∧ (∃ m, Mem ringL m ∧ m ≠ 20) ∧ (leave ringL 20).2 = none :=
  ⟨stable_of_stableB _ (by decide +kernel), quiescent_of_quiescentB _ (by decide +kernel), (memB_iff _ _).mp (by decide +kernel),
   ⟨10, (memB_iff _ _).mp (by decide +kernel), by decide +kernel⟩, by decide +kernel⟩

/-- the data of 20 arrives at 30, the tombstone stays behind, 10 is untouched -/
example : ((leave ringL 20).1.get 30).map (·.store) =
    some [⟨"e", 25, some "x", []⟩, ⟨"b", 15, some "w", ["c"]⟩] := by decide +kernel
example : ((leave ringL 20).1.get 20).map (·.store) = some [⟨"d", 18, none, []⟩] := by decide +kernel
example : ((leave ringL 20).1.get 10).map (·.store) = some [⟨"a", 5, some "v", []⟩] := by decide +kernel

/-- the first side condition of `leave_conserves` (the leaver's keys are distinct) holds in `ringL`; the second (no
key on both nodes) is read off `ringL`: keys "b", "d" at 20, "e" at 30 -/
example : ((([⟨"b", 15, some "w", ["c"]⟩, ⟨"d", 18, none, []⟩] : List KEntry).map (·.key)).Nodup) := by decide +kernel

/-- **Witness 1: `Stable` is NOT preserved by `Leave()` alone.** Right after node 20 has left `ringL`,
node 10 (its predecessor) still has the departed node 20 as first successor. -/
theorem leave_breaks_stable : ¬ Stable (leave ringL 20).1 := by
  intro hs
  -- one evaluation of the net for both facts about node 10
  have h10 : ((leave ringL 20).1.get 10).map (fun x => (checkNodeState x false, x.succs.head?)) =
      some (none, some 20) := by decide +kernel
  obtain ⟨x, hg, e⟩ := Option.map_eq_some_iff.mp h10
  obtain ⟨hc, h20⟩ := Prod.mk.inj e
  have : memB (leave ringL 20).1 20 = false := by decide +kernel
  rw [(memB_iff _ _).mpr (hs.succ_first hg hc h20).1] at this; cases this

/-- … and node 30 (its successor) still has it as predecessor -/
example : ((leave ringL 20).1.get 30).bind (·.pred) = some 20 := by decide +kernel

/-- **Witness 2: a lookup right after the leave returns the departed node.** Asked for key 15 (owned by
node 30 once 20 is gone), node 10 answers "20" — a node that is `Left` and fails every request. -/
theorem leave_lookup_returns_departed :
    findSucc (leave ringL 20).1 FUEL 10 15 = .found 20 ∧ stateOf (leave ringL 20).1 20 = some .left := by
  decide +kernel

/-- after the predecessor's next `stabilize` the pointers are right again (and in this small ring one
`fixFinger` at the predecessor makes the ring `Stable`) -/
example : stableB (fixFinger (stabilize (leave ringL 20).1 10) 10) = true := by decide +kernel
example : findSucc (stabilize (leave ringL 20).1 10) FUEL 10 15 = .found 30 := by decide +kernel

/-- non-vacuity of the two-member case (`pre = succ`): node 100 leaves the ring {100, 200}; after 200's
next `stabilize` and `fixFinger` the one-node ring is `Stable` -/
def ring2 : Net :=
  [(100, { state := .active, pred := some 200, succs := [200, 100], fingers := List.replicate 48 (some 200) }),
   (200, { state := .active, pred := some 100, succs := [100, 200], fingers := List.replicate 48 (some 100) })]

example : Stable ring2 ∧ Quiescent ring2 ∧ (leave ring2 100).2 = none :=
  ⟨stable_of_stableB _ (by decide +kernel), quiescent_of_quiescentB _ (by decide +kernel), by decide +kernel⟩
example : stableB (leave ring2 100).1 = false := by decide +kernel
example : stableB (fixFinger (stabilize (leave ring2 100).1 200) 200) = true := by decide +kernel

/-- **Witness 3: why the finger clause stays weakened.** `Stable` only asks fingers to be live members,
not to be exact. In `ringS` (ids 10, 20, 30, 2^40) node 10 holds 30 in every finger slot — admissible for
`Stable`, although no `fixFinger` run would produce it. After 30 has left and 20 has stabilized, node 10's
lookups for far keys hop to the highest finger preceding the key — the departed 30 — and fail with
`ErrNodeGone`; `fixFinger` therefore can never replace those fingers: after two full repair rounds at
every node, node 10 still holds 30, its table is a fixpoint of `fixFinger`, the ring is not `Stable`,
and node 10's lookup for key 45 still fails (node 2^40 answers it correctly). -/
def ringS : Net :=
  [(10, { state := .active, pred := some (2^40), succs := [20, 30, 2^40], fingers := List.replicate 48 (some 30) }),
   (20, { state := .active, pred := some 10, succs := [30, 2^40, 10], fingers := List.replicate 48 (some 30) }),
   (30, { state := .active, pred := some 20, succs := [2^40, 10, 20], fingers := List.replicate 48 (some (2^40)) }),
   (2^40, { state := .active, pred := some 30, succs := [10, 20, 30], fingers := List.replicate 48 (some 10) })]

def repairRound (net : Net) : Net :=
  [10, 20, 2^40].foldl (fun net n => fixFinger (checkPredecessor (stabilize net n) n) n) net

def ringS' : Net := repairRound (repairRound (stabilize (leave ringS 30).1 20))

example : Stable ringS ∧ Quiescent ringS := ⟨stable_of_stableB _ (by decide +kernel), quiescent_of_quiescentB _ (by decide +kernel)⟩

theorem stale_finger_persists :
    (ringS'.get 10).map (·.fingers.contains (some 30)) = some true ∧
    ((repairRound ringS').get 10).map (·.fingers) = (ringS'.get 10).map (·.fingers) ∧
    stableB ringS' = false ∧
    findSucc ringS' FUEL 10 45 = .err .gone ∧ findSucc ringS' FUEL (2^40) 45 = .found (2^40) := by
  decide +kernel

end Specter.C02.Leave
