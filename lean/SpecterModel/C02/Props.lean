import SpecterModel.C03.Props
/-!
# C02 — Ring pointers converge to the true ring order after membership churn

Proved here (safety half, every ring size and id layout):

* the ideal pointers are a FIXPOINT of the repair tasks: on a stable quiescent ring `checkPredecessor`
  changes nothing (`checkPredecessor_fixpoint`) and `stabilize` keeps every predecessor and every
  first successor, hence keeps the ring stable (`stabilize_keeps_stable`);
* finger repair is exact in ONE pass once predecessor/successor are right: after `fixK n k` the k-th
  finger of `n` is the owner of `n + 2^(k-1)` and nothing else changes (`fixK_owner`).

PARTIAL — the liveness half (from every state reachable by graceful churn, finitely many repair rounds
reach a stable ring; full successor LIST exactness) is not proved; it is validated on real nodes: after
random create/join/leave histories with task interleavings the harness runs repair rounds to a fixpoint
and the driver checks predecessor, the whole successor list and all 48 fingers of every live node of the
IMPLEMENTATION against the true ring order.
-/
namespace Specter.C02
open Specter.Ring Specter.C01 Specter.C03

theorem ping_of_mem (net : Net) (hq : Quiescent net) (n : Nat) (h : Mem net n) : ping net n = true := by
  obtain ⟨nd, hg, hc⟩ := h
  obtain ⟨ha, hup⟩ := hq.active n nd hg hc
  unfold ping; simp [hg, checkNodeState, hup, ha]

theorem checkPredecessor_noop (net : Net) (n p : Nat) (nd : Node) (hg : net.get n = some nd)
    (hp : nd.pred = some p) (hping : ping net p = true) : checkPredecessor net n = net := by
  unfold checkPredecessor
  simp only [hg, hp, hping]
  simp

/-- on a stable quiescent ring the predecessor check changes nothing -/
theorem checkPredecessor_fixpoint (net : Net) (hs : Stable net) (hq : Quiescent net) (n : Nat) (hn : Mem net n) :
    checkPredecessor net n = net := by
  obtain ⟨nd, hg, hc⟩ := hn
  obtain ⟨p, hp, hpm, _⟩ := hs.pred n nd hg hc
  exact checkPredecessor_noop net n p nd hg hp (ping_of_mem net hq p hpm)

theorem succ_pred_inverse (net : Net) (hs : Stable net) (n s : Nat) (nd nds : Node)
    (hg : net.get n = some nd) (hc : checkNodeState nd false = none) (hsu : nd.succs.head? = some s)
    (hgs : net.get s = some nds) (hcs : checkNodeState nds false = none) : nds.pred = some n := by
  obtain ⟨hsm, h1⟩ := hs.succ_first hg hc hsu
  obtain ⟨p, hp, _⟩ := hs.pred s nds hgs hcs
  obtain ⟨hpm, h2⟩ := hs.pred_first hgs hcs hp
  have hn : Mem net n := ⟨nd, hg, hc⟩
  -- no member strictly inside (n, s) nor inside (p, s), and n, p are members
  rw [hp, gap_left_unique n p s (hs.lt n hn) (hs.lt p hpm) (hs.lt s hsm) (h1 p hpm) (h2 n hn)]

theorem pred_succ_inverse (net : Net) (hs : Stable net) (n p : Nat) (nd ndp : Node)
    (hg : net.get n = some nd) (hc : checkNodeState nd false = none) (hp : nd.pred = some p)
    (hgp : net.get p = some ndp) (hcp : checkNodeState ndp false = none) : ndp.succs.head? = some n := by
  obtain ⟨hpm, h1⟩ := hs.pred_first hg hc hp
  obtain ⟨s, hsu, _⟩ := hs.succ p ndp hgp hcp
  obtain ⟨hsm, h2⟩ := hs.succ_first hgp hcp hsu
  have hn : Mem net n := ⟨nd, hg, hc⟩
  -- n and s are both the first member after p
  rw [hsu, cw_inj p s n (hs.lt p hpm) (hs.lt s hsm) (hs.lt n hn) (Nat.le_antisymm (h2 n hn) (h1 s hsm))]

/-! ### `makeSuccList`, `cutAfterSelf` -/

theorem makeSuccList_go_prefix (maxLen : Nat) (cands acc : List Nat) :
    ∃ r, makeSuccList.go maxLen acc cands = acc ++ r := by
  fun_induction makeSuccList.go maxLen acc cands with
  | case1 acc => exact ⟨[], (List.append_nil acc).symm⟩
  | case2 acc c cs h => exact ⟨[], (List.append_nil acc).symm⟩
  | case3 acc c cs h1 h2 ih => exact ih
  | case4 acc c cs h1 h2 ih =>
    obtain ⟨r, hr⟩ := ih
    exact ⟨c :: r, by rw [hr, List.append_assoc]; rfl⟩

theorem makeSuccList_head (imm : Nat) (cands : List Nat) (maxLen : Nat) :
    (makeSuccList imm cands maxLen).head? = some imm := by
  unfold makeSuccList
  obtain ⟨r, hr⟩ := makeSuccList_go_prefix maxLen cands [imm]
  rw [hr]; rfl

theorem cutAfterSelf_head (n : Nat) (l : List Nat) (x : Nat) (h : l.head? = some x) :
    (cutAfterSelf n l).head? = some x := by
  cases l with
  | nil => simp at h
  | cons a as => simp at h; subst h; unfold cutAfterSelf; split <;> simp

theorem makeSuccList_two (a b : Nat) (tl : List Nat) (hab : b ≠ a) :
    ∃ r, makeSuccList a (b :: tl) succEntries = a :: b :: r := by
  unfold makeSuccList
  rw [makeSuccList.go]
  have h1 : ¬ ([a].length ≥ succEntries) := by simp [succEntries]
  have h2 : [a].contains b = false := by simpa using hab
  simp only [h1, if_false, h2]
  obtain ⟨r, hr⟩ := makeSuccList_go_prefix succEntries tl ([a] ++ [b])
  exact ⟨r, by rw [hr]; simp⟩

theorem cutAfterSelf_two (n a b : Nat) (r : List Nat) (han : a ≠ n) :
    ∃ r', cutAfterSelf n (a :: b :: r) = a :: b :: r' := by
  have : (a == n) = false := by simpa using han
  by_cases hb : (b == n) = true
  · exact ⟨[], by simp [cutAfterSelf, this, hb]⟩
  · exact ⟨cutAfterSelf n r, by simp [cutAfterSelf, this, hb]⟩

theorem getPredSuccs_live (net : Net) (h : Nat) (nd : Node) (hg : net.get h = some nd)
    (hc : checkNodeState nd false = none) : getPredSuccs net h = some (nd.pred, nd.succs) := by
  unfold getPredSuccs; simp [hg, hc]

/-- `stabilize` once the repair loop has settled on the list of `h` -/
theorem stabilize_of_list (net : Net) (n h : Nat) (nd : Node) (cands : List Nat) (hg : net.get n = some nd)
    (hl : stabilizeList net n nd.succs = some (makeSuccList h cands succEntries)) :
    stabilize net n =
      if (checkNodeState nd true).isNone then
        notify (net.upd n (fun x => { x with succs := cutAfterSelf n (makeSuccList h cands succEntries) })) h n
      else net.upd n (fun x => { x with succs := cutAfterSelf n (makeSuccList h cands succEntries) }) := by
  unfold stabilize
  simp only [hg, hl, Option.map_some, cutAfterSelf_head n _ h (makeSuccList_head h cands succEntries)]

/-- "back": the new first successor `h` already names `n` as its predecessor (`hph`), so the closing `Notify`
changes nothing -/
theorem stabilize_of_list_back (net : Net) (n h : Nat) (nd ndh : Node) (cands : List Nat) (hg : net.get n = some nd)
    (hl : stabilizeList net n nd.succs = some (makeSuccList h cands succEntries))
    (hgh : net.get h = some ndh) (hph : ndh.pred = some n) :
    stabilize net n = net.upd n (fun x => { x with succs := cutAfterSelf n (makeSuccList h cands succEntries) }) := by
  rw [stabilize_of_list net n h nd cands hg hl]
  split
  · apply notify_noop
    rw [get_upd_map (·.pred), hgh, Option.map_some, hph]
    exact fun _ _ => rfl
  · rfl

/-- no hypothesis on lifecycle states: `s` may be Leaving, `s` may be `n` -/
theorem stabilize_live_head (net : Net) (n s : Nat) (nd nds : Node) (rest : List Nat)
    (hg : net.get n = some nd) (hl : nd.succs = s :: rest)
    (hgs : net.get s = some nds) (hcs : checkNodeState nds false = none) (hpn : nds.pred = some n) :
    stabilize net n =
      net.upd n (fun x => { x with succs := cutAfterSelf n (makeSuccList s nds.succs succEntries) }) := by
  have hbn : between n n s false = false := by unfold between; simp
  exact stabilize_of_list_back net n s nd nds nds.succs hg
    (by rw [hl, stabilizeList]; simp [getPredSuccs_live net s nds hgs hcs, hpn, hbn]) hgs hpn

/-- the same from the head of the list alone: the head stays `s` -/
theorem stabilize_confirm (net : Net) (n s : Nat) (nd nds : Node) (hg : net.get n = some nd)
    (hh : nd.succs.head? = some s) (hsn : s ≠ n) (hgs : net.get s = some nds)
    (hcs : checkNodeState nds false = none) (hps : nds.pred = some n) :
    ∃ l, l.head? = some s ∧ stabilize net n = net.upd n (fun nd => { nd with succs := l }) := by
  obtain ⟨rest, hl⟩ := List.head?_eq_some_iff.mp hh
  exact ⟨_, cutAfterSelf_head n _ s (makeSuccList_head s nds.succs succEntries),
    stabilize_live_head net n s nd nds rest hg hl hgs hcs hps⟩

theorem stabilize_of_stable (net : Net) (hs : Stable net) (n : Nat) (nd : Node) (hg : net.get n = some nd)
    (hc : checkNodeState nd false = none) :
    ∃ l, l.head? = nd.succs.head? ∧ stabilize net n = net.upd n (fun x => { x with succs := l }) := by
  obtain ⟨s, hsu, ⟨nds, hgs, hcs⟩, _⟩ := hs.succ n nd hg hc
  obtain ⟨rest, hl⟩ := List.head?_eq_some_iff.mp hsu
  rw [hsu]
  exact ⟨_, cutAfterSelf_head n _ s (makeSuccList_head s nds.succs succEntries),
    stabilize_live_head net n s nd nds rest hg hl hgs hcs (succ_pred_inverse net hs n s nd nds hg hc hsu hgs hcs)⟩

/-- **Fixpoint of `stabilize`.** On a stable quiescent ring, `stabilize` at any member keeps every node's
state, predecessor, finger table, crash flag and first successor: only the tail of the caller's successor list
may be refreshed. -/
theorem stabilize_keeps_pointers (net : Net) (hs : Stable net) (hq : Quiescent net) (n : Nat) (hn : Mem net n) :
    ∀ m, ((stabilize net n).get m).map (fun x => (x.state, x.pred, x.succs.head?, x.fingers, x.crashed)) =
         (net.get m).map (fun x => (x.state, x.pred, x.succs.head?, x.fingers, x.crashed)) := by
  intro m
  obtain ⟨nd, hg, hc⟩ := hn
  obtain ⟨l, hl, he⟩ := stabilize_of_stable net hs n nd hg hc
  rw [he]
  refine get_upd_map _ net n m _ (fun x hx => ?_)
  rw [hg] at hx; injection hx with hx; subst hx
  simp only [hl]

/-- `stabilize` preserves stability -/
theorem stabilize_keeps_stable (net : Net) (hs : Stable net) (hq : Quiescent net) (n : Nat) (hn : Mem net n) :
    Stable (stabilize net n) := by
  obtain ⟨nd, hg, hc⟩ := hn
  obtain ⟨l, hl, he⟩ := stabilize_of_stable net hs n nd hg hc
  rw [he]
  refine stable_of_view net _ (fun m => get_upd_map ptrView net n m _ (fun x hx => ?_))
    (fun m x hx hcx f hf => ?_) hs
  · rw [hg] at hx; injection hx with hx; subst hx
    simp only [ptrView, hl]; rfl
  · rw [get_upd] at hx
    split at hx
    · subst_vars; rw [hg] at hx; injection hx with hx; subst hx
      exact hs.fingers _ nd hg hc f hf
    · exact hs.fingers m x hx hcx f hf

/-- **Finger repair is exact.** On a stable ring, `fixK n k` sets finger `k` of `n` to the owner of
`n + 2^(k-1)` and changes nothing else. -/
theorem fixK_owner (net : Net) (hs : Stable net) (n k : Nat) (hn : Mem net n)
    (hF : LookupsComplete net (moduloSum n (2^(k-1)))) :
    ∃ o, IsOwner net (moduloSum n (2^(k-1))) o ∧
      fixK net n k = net.upd n (fun nd => { nd with fingers := nd.fingers.set (k-1) (some o) }) := by
  obtain ⟨o, hfo, ho⟩ := lookup_FUEL_owner net hs _ (moduloSum_lt _ _) hF n hn
  exact ⟨o, ho, by unfold fixK; simp [hfo]⟩

/-- non-vacuity: stabilize on the three-node ring of C01 leaves node 0's pointers in place -/
example : ((stabilize Specter.C01.ring3 0).get 0).map (fun x => (x.pred, x.succs)) =
    some (some (2^48-1), [5, 2^48-1, 0]) := by decide +kernel

end Specter.C02
