import SpecterModel.C46.Model
/-!
# C46 — Concurrent fan-out returns aligned results after all tasks finish

`all_order_independent` and `aligned` are about the slot writes replayed in any completion order (any list of
goroutine indices that contains every index, repeats allowed); they rest on one fact per array: goroutine `i`
writes slot `i` only (`writeIf`). `returns_after_all` is about a small-step model of `All` (goroutines
`running → fnReturned → done`, waiter goroutine closing `done` after `wg.Wait()`, context cancellation at any
time, main's `select` with both arms) and rests on the invariant `Inv`. That model (`GPC`, `MainPC`, `Sys`,
`Step`, `Reach`, `init`) is defined in this file, in its second section; `Model.lean` holds only the slot-write
replay.
-/
namespace Specter.C46

/-! ## slot writes commute -/

/-- The write of goroutine `i` to ONE of the two arrays: `f o` goes to slot `i` when `c o` holds. `complete` is
this write twice (`complete_eq`), with complementary conditions. -/
def writeIf (c : Outcome → Bool) (f : Outcome → Nat) (outs : List Outcome) (arr : List Nat) (i : Nat) : List Nat :=
  match outs[i]? with
  | some o => if c o then arr.set i (f o) else arr
  | none => arr

theorem complete_eq (outs : List Outcome) (s : Slots) (i : Nat) :
    complete outs s i =
      ⟨writeIf (·.err = 0) (·.val) outs s.results i, writeIf (·.err ≠ 0) (·.err) outs s.errors i⟩ := by
  unfold complete writeIf
  cases outs[i]? with
  | none => rfl
  | some o => by_cases h : o.err = 0 <;> simp [h]

section
variable {c : Outcome → Bool} {f : Outcome → Nat} {outs : List Outcome}

theorem length_writeIf (arr : List Nat) (i : Nat) : (writeIf c f outs arr i).length = arr.length := by
  fun_cases writeIf c f outs arr i <;> simp

theorem complete_lengths (outs : List Outcome) (s : Slots) (i : Nat) :
    (complete outs s i).results.length = s.results.length ∧ (complete outs s i).errors.length = s.errors.length := by
  rw [complete_eq]
  exact ⟨length_writeIf .., length_writeIf ..⟩

theorem getElem?_writeIf (arr : List Nat) (i : Nat) {j : Nat} {o : Outcome} (hj : outs[j]? = some o)
    (hl : j < arr.length) :
    (writeIf c f outs arr i)[j]? = if j = i ∧ c o then some (f o) else arr[j]? := by
  unfold writeIf
  by_cases hji : j = i
  · subst hji
    rw [hj]
    by_cases hc : c o = true <;> simp [hc, hl]
  · rw [if_neg (fun h => hji h.1)]
    cases outs[i]? with
    | none => rfl
    | some oi => by_cases h : c oi = true <;> simp [h, List.getElem?_set_ne (Ne.symm hji)]

theorem length_foldl_writeIf (order arr : List Nat) : (order.foldl (writeIf c f outs) arr).length = arr.length := by
  induction order generalizing arr with
  | nil => rfl
  | cons i rest ih => rw [List.foldl_cons, ih, length_writeIf]

theorem getElem?_foldl_writeIf (order arr : List Nat) {j : Nat} {o : Outcome} (hj : outs[j]? = some o)
    (hl : j < arr.length) :
    (order.foldl (writeIf c f outs) arr)[j]? = if j ∈ order ∧ c o then some (f o) else arr[j]? := by
  induction order generalizing arr with
  | nil => simp
  | cons i rest ih =>
    rw [List.foldl_cons, ih _ (by rwa [length_writeIf]), getElem?_writeIf arr i hj hl]
    by_cases hc : c o = true <;> by_cases hr : j ∈ rest <;> simp [hc, hr]

theorem foldl_writeIf_all (order : List Nat) (hall : ∀ i, i < outs.length → i ∈ order) :
    order.foldl (writeIf c f outs) (List.replicate outs.length 0) = outs.map fun o => if c o then f o else 0 := by
  apply List.ext_getElem?
  intro j
  by_cases hj : j < outs.length
  · rw [getElem?_foldl_writeIf order _ (List.getElem?_eq_getElem hj) (by simpa using hj)]
    simp [hall j hj, hj]
    split <;> rfl
  · rw [List.getElem?_eq_none (by simpa [length_foldl_writeIf] using hj), List.getElem?_eq_none (by simpa using hj)]

end

theorem foldl_complete (outs : List Outcome) (order : List Nat) (s : Slots) :
    order.foldl (complete outs) s =
      ⟨order.foldl (writeIf (·.err = 0) (·.val) outs) s.results,
       order.foldl (writeIf (·.err ≠ 0) (·.err) outs) s.errors⟩ := by
  induction order generalizing s with
  | nil => rfl
  | cons i rest ih => rw [List.foldl_cons, ih, complete_eq]; rfl

/-- For every completion order that contains every task index (a permutation of
`0..n-1` in particular), the slot arrays are exactly `expected` — per task, in input order. -/
theorem all_order_independent (outs : List Outcome) (order : List Nat)
    (hall : ∀ i, i < outs.length → i ∈ order) : runOrder outs order = expected outs := by
  rw [runOrder, foldl_complete, Slots.init, foldl_writeIf_all order hall, foldl_writeIf_all order hall]
  simp only [expected, Slots.mk.injEq]
  constructor
  · exact List.map_congr_left fun o _ => by simp [expResult]
  · exact List.map_congr_left fun o _ => by by_cases h : o.err = 0 <;> simp [h]

/-- In the arrays `All` returns (`expected`, by `all_order_independent`), `errors[i]` is non-nil
exactly when task `i` failed (and is that error), `results[i]` is the zero value then, and the task's value
otherwise; both arrays have one slot per task. -/
theorem aligned (outs : List Outcome) (i : Nat) (o : Outcome) (h : outs[i]? = some o) :
    (expected outs).errors[i]? = some o.err ∧
    ((expected outs).errors[i]? ≠ some 0 ↔ o.err ≠ 0) ∧
    (o.err ≠ 0 → (expected outs).results[i]? = some 0) ∧
    (o.err = 0 → (expected outs).results[i]? = some o.val) ∧
    (expected outs).results.length = outs.length ∧ (expected outs).errors.length = outs.length := by
  simp +contextual [expected, h, expResult]

/-! ## small-step model: return only after all tasks finished -/

inductive GPC where
  | running        -- fn(fnCtx) not yet returned
  | fnReturned     -- task finished, slot not yet written
  | done           -- slot written and wg.Done() executed
deriving DecidableEq, Repr

inductive MainPC where
  | selecting      -- at the `select`
  | afterCancel    -- took `case <-fnCtx.Done()`, now at `<-done`
  | returned
deriving DecidableEq, Repr

structure Sys where
  results : Nat → Nat
  errors  : Nat → Nat
  g : Nat → GPC
  closed : Bool        -- `close(done)` executed by the waiter goroutine
  cancelled : Bool
  main : MainPC

def upd {α} (f : Nat → α) (i : Nat) (v : α) : Nat → α := fun j => if j = i then v else f j

variable (n : Nat) (outs : Nat → Outcome)

inductive Step : Sys → Sys → Prop
  | fnRet (s : Sys) (i : Nat) (hi : i < n) (h : s.g i = .running) :
      Step s { s with g := upd s.g i .fnReturned }
  | write (s : Sys) (i : Nat) (hi : i < n) (h : s.g i = .fnReturned) :
      Step s { s with results := if (outs i).err = 0 then upd s.results i (outs i).val else s.results,
                      errors := if (outs i).err = 0 then s.errors else upd s.errors i (outs i).err,
                      g := upd s.g i .done }
  | cancel (s : Sys) : Step s { s with cancelled := true }
  | close (s : Sys) (h : ∀ i, i < n → s.g i = .done) : Step s { s with closed := true }   -- wg.Wait() returned
  | selDone (s : Sys) (h : s.main = .selecting) (hc : s.closed = true) : Step s { s with main := .returned }
  | selCtx (s : Sys) (h : s.main = .selecting) (hc : s.cancelled = true) : Step s { s with main := .afterCancel }
  | waitDone (s : Sys) (h : s.main = .afterCancel) (hc : s.closed = true) : Step s { s with main := .returned }

inductive Reach : Sys → Sys → Prop
  | refl (s : Sys) : Reach s s
  | step {s s' s'' : Sys} : Reach s s' → Step n outs s' s'' → Reach s s''

/-- state at the `select` right after the goroutines were launched; the context may already be cancelled -/
def init (cancelled : Bool) : Sys :=
  { results := fun _ => 0, errors := fun _ => 0, g := fun _ => .running, closed := false,
    cancelled := cancelled, main := .selecting }

structure Inv (s : Sys) : Prop where
  closedAll : s.closed = true → ∀ i, i < n → s.g i = .done
  slots : ∀ i, s.g i = .done → s.results i = expResult (outs i) ∧ s.errors i = (outs i).err
  blank : ∀ i, s.g i ≠ .done → s.results i = 0 ∧ s.errors i = 0
  ret : s.main = .returned → s.closed = true

theorem inv_init (c : Bool) : Inv n outs (init c) := by
  refine ⟨?_, ?_, ?_, ?_⟩ <;> simp [init]

theorem inv_step {s s' : Sys} (hi : Inv n outs s) (hs : Step n outs s s') : Inv n outs s' := by
  cases hs with
  | fnRet i hlt h =>
    -- `i` was not `done` and is not now, so the same goroutines are `done` before and after
    have hd : ∀ j, upd s.g i .fnReturned j = .done ↔ s.g j = .done := by
      intro j
      by_cases e : j = i <;> simp [upd, e, h]
    exact ⟨fun hc => (nomatch h.symm.trans (hi.closedAll hc i hlt)), fun j hj => hi.slots j ((hd j).1 hj),
      fun j hj => hi.blank j (mt (hd j).2 hj), hi.ret⟩
  | write i hlt h =>
    have hb := hi.blank i (by rw [h]; simp)
    refine ⟨?_, ?_, ?_, hi.ret⟩
    · exact fun hc => nomatch h.symm.trans (hi.closedAll hc i hlt)
    · intro j hj
      by_cases e : j = i
      · subst e
        by_cases he : (outs j).err = 0
        · simp [upd, expResult, he, hb.2]
        · simp [upd, expResult, he, hb.1]
      · simp [upd, e] at hj ⊢
        have := hi.slots j hj
        split <;> simp [this, upd, e]
    · intro j hj
      by_cases e : j = i
      · subst e; simp [upd] at hj
      · simp [upd, e] at hj ⊢
        have := hi.blank j hj
        split <;> simp [this, upd, e]
  | cancel => exact ⟨hi.closedAll, hi.slots, hi.blank, hi.ret⟩
  | close h => exact ⟨fun _ => h, hi.slots, hi.blank, fun _ => rfl⟩
  | selDone h hc => exact ⟨hi.closedAll, hi.slots, hi.blank, fun _ => hc⟩
  | selCtx h hc => exact ⟨hi.closedAll, hi.slots, hi.blank, by simp⟩
  | waitDone h hc => exact ⟨hi.closedAll, hi.slots, hi.blank, fun _ => hc⟩

theorem inv_reach {s s' : Sys} (hi : Inv n outs s) (hr : Reach n outs s s') : Inv n outs s' := by
  induction hr with
  | refl => exact hi
  | step _ hs ih => exact inv_step n outs ih hs

/-- In every schedule, with or without cancellation (before or during the call), when
`All` returns every task has finished and its goroutine has written its slot, and the slots hold, per task,
its value or its error. -/
theorem returns_after_all (c : Bool) {s : Sys} (hr : Reach n outs (init c) s) (hret : s.main = .returned) :
    ∀ i, i < n → s.g i = .done ∧ s.results i = expResult (outs i) ∧ s.errors i = (outs i).err := by
  have hi := inv_reach n outs (inv_init n outs c) hr
  intro i hlt
  have hd := hi.closedAll (hi.ret hret) i hlt
  exact ⟨hd, hi.slots i hd⟩

/-- the cancellation arm cannot return early: from `afterCancel` the only way on is `<-done` -/
theorem cancel_arm_waits {s s' : Sys} (h : s.main = .afterCancel) (hs : Step n outs s s')
    (hret : s'.main = .returned) : s.closed = true := by
  cases hs with
  | fnRet i hlt hg => simp [h] at hret
  | write i hlt hg => simp [h] at hret
  | cancel => simp [h] at hret
  | close hh => simp [h] at hret
  | selDone hm hc => exact hc
  | selCtx hm hc => simp at hret
  | waitDone hm hc => exact hc

/-- The step relation has no clock, so "how long ago the context was cancelled" is
not an enabling condition of any step of main. As long as one task is still inside its function (or has not yet
written its slot), `All` has not returned - after arbitrarily many further steps of the other goroutines, with the
context cancelled or not, through either arm of the `select`. (A bounded wait after cancellation would add a step
`afterCancel → returned` without `closed`, which this theorem excludes.) -/
theorem straggler_blocks_return (c : Bool) {s : Sys} (hr : Reach n outs (init c) s) {i : Nat} (hlt : i < n)
    (hrun : s.g i ≠ .done) : s.main ≠ .returned :=
  fun hret => hrun (returns_after_all n outs c hr hret i hlt).1

/-- non-vacuity of `straggler_blocks_return`: two tasks, task 0 done, context cancelled, main already in the
cancellation arm, task 1 still running - a reachable state, and main is still waiting there -/
example : ∃ s, Reach 2 (fun _ => ⟨4, 0⟩) (init false) s ∧ s.cancelled = true ∧ s.main = .afterCancel ∧
    s.g 0 = .done ∧ s.g 1 = .running := by
  refine ⟨_, ((((Reach.refl _).step (.fnRet _ 0 (by decide) rfl)).step (.write _ 0 (by decide) ?_)).step
    (.cancel _)).step (.selCtx _ rfl rfl), rfl, rfl, ?_, ?_⟩ <;> simp [upd, init]

/-! ### non-vacuity -/
example : runOrder [⟨5, 0⟩, ⟨7, 3⟩, ⟨9, 0⟩] [2, 0, 1] = expected [⟨5, 0⟩, ⟨7, 3⟩, ⟨9, 0⟩] ∧
    expected [⟨5, 0⟩, ⟨7, 3⟩, ⟨9, 0⟩] = ⟨[5, 0, 9], [0, 3, 0]⟩ := by decide +kernel

/-- a complete run with one task, cancelled before the task finishes, returning through the cancel arm -/
example : ∃ s, Reach 1 (fun _ => ⟨4, 0⟩) (init false) s ∧ s.main = .returned := by
  refine ⟨_, ((((((Reach.refl _).step (.cancel _)).step (.selCtx _ rfl rfl)).step (.fnRet _ 0 (by decide) rfl)).step
    (.write _ 0 (by decide) ?_)).step (.close _ ?_)).step (.waitDone _ rfl rfl), rfl⟩
  · simp [upd]
  · intro i hi
    obtain rfl : i = 0 := by omega
    simp [upd]

end Specter.C46
