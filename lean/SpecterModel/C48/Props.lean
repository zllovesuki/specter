import SpecterModel.C48.Model
/-!
# C48 — The ACME DNS responder answers exactly the stored challenges

All theorems are about `answer`/`serve` of `Model.lean` (acme/dns.go as it is after the repair "ACME DNS
responder matches its zone on a label boundary"), for ALL query names / stores / static record sets. The TXT
answer for `label.zone` (`txt_exact`; static TXT records: none in practice) needs no well-formedness hypothesis on
the zone; the pre-fix code did (`WellFormedAt`, `old_label_agrees`). That code is kept as `answerOld`
(`strings.Index` and the boundary-less `HasSuffix`), with its two defects as theorems and the repaired answers on
the same inputs.
-/
namespace Specter.C48

/-! ## strings -/

theorem numParts_dot (a b : Name) : numParts (a ++ '.' :: b) = numParts a + numParts b := by
  simp only [numParts, List.count_append, List.count_cons_self]
  exact Nat.add_right_comm ..

theorem numParts_label (l zone : Name) (hl : '.' ∉ l) : numParts (l ++ '.' :: zone) = numParts zone + 1 := by
  rw [numParts_dot, numParts, List.count_eq_zero.mpr hl, Nat.add_comm]

theorem dotZone_suffix (l zone : Name) : ('.' :: zone).isSuffixOf (l ++ '.' :: zone) = true := by
  rw [List.isSuffixOf_iff_suffix]; exact ⟨l, rfl⟩

theorem txtLabel_label {zone q l : Name} (hq : lower q = l ++ '.' :: zone) : txtLabel zone q = some l := by
  rw [txtLabel, hq, if_pos (dotZone_suffix l zone), List.take_left']
  rw [List.length_append, List.length_cons, Nat.sub_sub, Nat.add_sub_cancel]

theorem isImmediate_label {zone q l : Name} (hq : lower q = l ++ '.' :: zone) (hl : '.' ∉ l) :
    isImmediate zone q = true := by
  simp [isImmediate, hq, numParts_label l zone hl, dotZone_suffix]

/-! ## the property -/

/-- the last step of `answer`: no records and no server failure make a name error -/
theorem nameError_when_empty (rr : List Ans) :
    (if (rr.isEmpty && rcSuccess != rcServFail) = true then (rr, rcNameError, true) else (rr, rcSuccess, true)) =
      (rr, if rr.isEmpty then rcNameError else rcSuccess, true) := by
  cases rr <;> rfl

theorem answer_label (cfg : Cfg) (store : Name → Option (List Bytes)) (q l : Name)
    (hq : lower q = l ++ '.' :: cfg.zone) (hl : '.' ∉ l) :
    answer cfg store q tTXT =
      match store l with
      | none => (statics cfg q tTXT, rcServFail, true)
      | some vals =>
        (statics cfg q tTXT ++ (vals.filter (· ≠ [])).map (Ans.txt q),
         if (statics cfg q tTXT ++ (vals.filter (· ≠ [])).map (Ans.txt q)).isEmpty then rcNameError else rcSuccess,
         true) := by
  have h1 : tTXT ≠ tANY := by decide
  simp only [answer, isImmediate_label hq hl, txtLabel_label hq, h1, Bool.not_true, Bool.false_eq_true, if_false,
    if_true]
  cases store l with
  | none => exact if_neg (by simp)
  | some vals => exact nameError_when_empty _

/-- **C48 (TXT).** A TXT query for `label.zone`, spelled in any letter case, is answered with exactly the
non-empty challenge values stored for the lower-cased label (each as a TXT record owned by the name as
queried), after the static TXT records of that name; authoritative; NOERROR, or NXDOMAIN when there is nothing. -/
theorem txt_exact (cfg : Cfg) (store : Name → Option (List Bytes)) (q l : Name) (vals : List Bytes)
    (hq : lower q = l ++ '.' :: cfg.zone) (hl : '.' ∉ l)
    (hs : store l = some vals) :
    answer cfg store q tTXT =
      (statics cfg q tTXT ++ (vals.filter (· ≠ [])).map (Ans.txt q),
       if (statics cfg q tTXT ++ (vals.filter (· ≠ [])).map (Ans.txt q)).isEmpty then rcNameError else rcSuccess,
       true) := by
  rw [answer_label cfg store q l hq hl, hs]

/-- **C48 (storage failure).** If the storage lookup of the label fails, the answer is a server failure
(and carries no challenge values). -/
theorem storage_failure_servfail (cfg : Cfg) (store : Name → Option (List Bytes)) (q l : Name)
    (hq : lower q = l ++ '.' :: cfg.zone) (hl : '.' ∉ l)
    (hs : store l = none) :
    answer cfg store q tTXT = (statics cfg q tTXT, rcServFail, true) := by
  rw [answer_label cfg store q l hq hl, hs]

/-- **C48 (static records).** For a name at or directly below the zone and a type other than ANY/TXT the
answer is exactly the static records of that name and type; NXDOMAIN when there are none. -/
theorem static_records (cfg : Cfg) (store : Name → Option (List Bytes)) (q : Name) (qtype : Nat)
    (hi : isImmediate cfg.zone q = true) (h1 : qtype ≠ tANY) (h2 : qtype ≠ tTXT) :
    answer cfg store q qtype =
      (statics cfg q qtype, if (statics cfg q qtype).isEmpty then rcNameError else rcSuccess, true) := by
  simp only [answer, hi, h1, h2, Bool.not_true, Bool.false_eq_true, if_false]
  exact nameError_when_empty _

/-- **C48 (ANY).** ANY queries for a name at or directly below the zone are refused as not implemented. -/
theorem any_not_implemented (cfg : Cfg) (store : Name → Option (List Bytes)) (q : Name)
    (hi : isImmediate cfg.zone q = true) :
    answer cfg store q tANY = ([], rcNotImp, true) := by
  unfold answer; simp [hi]

/-- **C48 (deep names).** A name more than one label below the zone — `pre.l.zone` — is answered, for every
query type and whatever the storage holds, with an authoritative name error, no answers, SOA in the authority section. -/
theorem deep_name_nxdomain_soa (cfg : Cfg) (store : Name → Option (List Bytes)) (q pre l : Name) (qtype : Nat)
    (hq : lower q = pre ++ '.' :: l ++ '.' :: cfg.zone) :
    serve cfg store q qtype none true =
      { rcode := rcNameError, auth := true, answers := [], soa := true, opt := false } := by
  have hni : isImmediate cfg.zone q = false := by
    -- both `pre` and `l` count as a part: two more than the zone
    have h1 : 0 < numParts pre := Nat.succ_pos _
    have h2 : 0 < numParts l := Nat.succ_pos _
    simp only [isImmediate, hq, numParts_dot, Bool.and_eq_false_iff, decide_eq_false_iff_not]
    omega
  simp [serve, answer, hni, rcNameError]

/-- the SOA accompanies exactly the authoritative name errors -/
theorem serve_soa_iff (cfg : Cfg) (store : Name → Option (List Bytes)) (q : Name) (qtype : Nat) :
    (serve cfg store q qtype none true).soa = true ↔
      (serve cfg store q qtype none true).rcode = rcNameError ∧ (serve cfg store q qtype none true).auth = true := by
  unfold serve
  simp only [Bool.not_true, Bool.false_eq_true, if_false]
  generalize answer cfg store q qtype = a
  obtain ⟨rr, rc, auth⟩ := a
  simp [and_comm]

/-- **C48 (exactly).** A name that is not below the zone on a label boundary (in particular a name merely
sharing a string suffix with the zone) never receives challenge values, whatever is stored. -/
theorem no_challenge_outside_zone (cfg : Cfg) (store : Name → Option (List Bytes)) (q : Name) (qtype : Nat)
    (ho : ('.' :: cfg.zone).isSuffixOf (lower q) = false) :
    ∀ a ∈ (answer cfg store q qtype).1, ∃ r, a = .static r := by
  have hl : txtLabel cfg.zone q = none := by simp [txtLabel, ho]
  have hst : ∀ a ∈ statics cfg q qtype, ∃ r, a = Ans.static r := by
    intro a ha
    obtain ⟨x, _, rfl⟩ := List.mem_map.mp ha
    exact ⟨_, rfl⟩
  fun_cases answer cfg store q qtype
  case case1 | case2 => exact List.forall_mem_nil _      -- not immediate; ANY
  case case3 rr rr' rc he _ | case4 rr rr' rc he _ =>
    -- without a label the records are the static ones
    simp only [hl, ite_self, Prod.mk.injEq] at he
    exact he.1 ▸ hst

/-! ## the pre-fix variant: `strings.Index` + `HasSuffix` without dot boundary -/

/-- `strings.Index(s, pat)`: offset of the FIRST occurrence -/
def indexOf (pat : Name) : Name → Option Nat
  | [] => if pat.isPrefixOf [] then some 0 else none
  | c :: t => if pat.isPrefixOf (c :: t) then some 0 else (indexOf pat t).map (· + 1)

def isImmediateOld (zone q : Name) : Bool :=
  let qn := lower q
  zone.isSuffixOf qn && decide (numParts qn ≥ numParts zone) && decide (numParts qn - numParts zone ≤ 1)

def txtLabelOld (zone q : Name) : Option Name :=
  match indexOf zone (lower q) with
  | some idx => if idx = 0 then none else some ((lower q).take (idx - 1))
  | none => none

/-- `answer` before the repair: the same text with `isImmediateOld`, `txtLabelOld` for `isImmediate`, `txtLabel` -/
def answerOld (cfg : Cfg) (store : Name → Option (List Bytes)) (q : Name) (qtype : Nat) : List Ans × Nat × Bool :=
  if !isImmediateOld cfg.zone q then ([], rcNameError, true)
  else if qtype = tANY then ([], rcNotImp, true)
  else
    let rr := statics cfg q qtype
    let (rr, rc) :=
      if qtype = tTXT then
        match txtLabelOld cfg.zone q with
        | none => (rr, rcSuccess)
        | some l =>
          match store l with
          | none => (rr, rcServFail)
          | some vals => (rr ++ (vals.filter (· ≠ [])).map (Ans.txt q), rcSuccess)
      else (rr, rcSuccess)
    if rr.isEmpty && rc != rcServFail then (rr, rcNameError, true) else (rr, rc, true)

/-- the zone does not occur inside `l.zone` before its proper place -/
def WellFormedAt (zone l : Name) : Prop :=
  ∀ i, i ≤ l.length → ¬ zone <+: (l ++ '.' :: zone).drop i

theorem indexOf_eq_some (pat : Name) : ∀ (n : Nat) (s : Name), pat <+: s.drop n →
    (∀ i, i < n → ¬ pat <+: s.drop i) → indexOf pat s = some n
  | 0, s, h, _ => by cases s <;> simpa [indexOf] using h
  | n + 1, [], h, hf => absurd h (hf 0 (Nat.succ_pos n))
  | n + 1, c :: t, h, hf => by
    have h0 : ¬ pat.isPrefixOf (c :: t) = true := fun hh => hf 0 (Nat.succ_pos n) (List.isPrefixOf_iff_prefix.mp hh)
    rw [indexOf, if_neg h0, indexOf_eq_some pat n t h fun i hi => hf (i + 1) (Nat.succ_lt_succ hi)]
    rfl

theorem txtLabelOld_label {zone q l : Name} (hq : lower q = l ++ '.' :: zone) (hwf : WellFormedAt zone l) :
    txtLabelOld zone q = some l := by
  rw [txtLabelOld, hq, indexOf_eq_some zone (l.length + 1) _ (by simp) fun i hi => hwf i (Nat.le_of_lt_succ hi)]
  simp

theorem prefix_first_dot (a l' R S : Name) (ha : '.' ∉ a) (hl : '.' ∉ l')
    (h : (a ++ '.' :: R) <+: (l' ++ '.' :: S)) : a = l' ∧ R <+: S := by
  induction a generalizing l' with
  | nil =>
    cases l' with
    | nil => exact ⟨rfl, (List.cons_prefix_cons.mp h).2⟩
    | cons c t => exact absurd ((List.cons_prefix_cons.mp h).1 ▸ List.mem_cons_self) hl
  | cons x a ih =>
    cases l' with
    | nil => exact absurd ((List.cons_prefix_cons.mp h).1 ▸ List.mem_cons_self) ha
    | cons c t =>
      obtain ⟨rfl, h1⟩ := List.cons_prefix_cons.mp h
      obtain ⟨rfl, h2⟩ := ih t (List.not_mem_of_not_mem_cons ha) (List.not_mem_of_not_mem_cons hl) h1
      exact ⟨rfl, h2⟩

/-- If the first two labels of the zone differ (e.g. `acme.example.com.`), the zone is well-formed for
EVERY single label: `strings.Index` then finds the zone at its proper place. -/
theorem wellFormed_of_distinct_labels (a b rest l : Name) (ha : '.' ∉ a) (hb : '.' ∉ b) (hab : a ≠ b)
    (hl : '.' ∉ l) : WellFormedAt (a ++ '.' :: b ++ '.' :: rest) l := by
  intro i hi hpre
  simp only [List.drop_append_of_le_length hi, List.append_assoc, List.cons_append] at hpre
  -- a zone found at offset `i` ends the label with `a` and goes on with `b` where the proper zone starts with `a`
  have h1 := prefix_first_dot a (l.drop i) _ _ ha (fun m => hl (List.mem_of_mem_drop m)) hpre
  exact hab (prefix_first_dot b a _ _ hb ha h1.2).1.symm

/-- on well-formed zones the old label extraction agreed with the repaired one -/
theorem old_label_agrees (zone q l : Name) (hq : lower q = l ++ '.' :: zone) (hwf : WellFormedAt zone l) :
    txtLabelOld zone q = txtLabel zone q := by
  rw [txtLabelOld_label hq hwf, txtLabel_label hq]

def zAcme : Name := "acme.".toList
def zFull : Name := "acme.example.com.".toList
def storeOf (label : String) (v : Bytes) : Name → Option (List Bytes) :=
  fun l => if l = label.toList then some [v] else some []

/-! The concrete statements below are test vectors, evaluated by the kernel, which would decode every string
literal byte by byte (`String.toList`): `String.toList_ofList` hands it the characters outright, one literal per
`rw` (`simp` does not see a literal as `String.ofList _`, and its `String.reduceToList` rewrites by `rfl`: the
decoding again). -/

/-- pre-fix: `strings.Index` took the FIRST occurrence: with the single-label zone `acme.`, the TXT query for
`xacme.acme.` looked up label "" instead of `xacme`; the stored challenge was not served. -/
theorem old_index_first_occurrence_defect :
    answerOld ⟨zAcme, []⟩ (storeOf "xacme" [1]) "xacme.acme.".toList tTXT = ([], rcNameError, true) := by
  unfold zAcme storeOf
  repeat rw [String.toList_ofList]
  decide +kernel

/-- pre-fix: `HasSuffix` without a dot boundary and `qname[0:idx-1]`: `tokenxacme.example.com.` (not in the
zone) was answered with the challenge stored for label `token`. -/
theorem old_suffix_without_boundary_leaks :
    answerOld ⟨zFull, []⟩ (storeOf "token" [1]) "tokenxacme.example.com.".toList tTXT =
      ([.txt "tokenxacme.example.com.".toList [1]], rcSuccess, true) := by
  unfold zFull storeOf
  repeat rw [String.toList_ofList]
  decide +kernel

/-- the repaired code on the same two inputs -/
theorem fixed_on_witnesses :
    answer ⟨zAcme, []⟩ (storeOf "xacme" [1]) "xacme.acme.".toList tTXT =
      ([.txt "xacme.acme.".toList [1]], rcSuccess, true) ∧
    answer ⟨zFull, []⟩ (storeOf "token" [1]) "tokenxacme.example.com.".toList tTXT = ([], rcNameError, true) := by
  unfold zAcme zFull storeOf
  repeat rw [String.toList_ofList]
  decide +kernel

/-! ## non-vacuity -/

example : lower "ManaGed.ACME.example.COM.".toList = "managed".toList ++ '.' :: zFull := by
  unfold zFull
  repeat rw [String.toList_ofList]
  decide +kernel
example : answer ⟨zFull, []⟩ (fun _ => some [[104, 105], [], [120]]) "ManaGed.ACME.example.COM.".toList tTXT =
    ([.txt "ManaGed.ACME.example.COM.".toList [104, 105], .txt "ManaGed.ACME.example.COM.".toList [120]], rcSuccess, true) := by
  unfold zFull
  repeat rw [String.toList_ofList]
  decide +kernel
example : isImmediate zFull "ns.acme.example.com.".toList = true := by
  unfold zFull
  repeat rw [String.toList_ofList]
  decide +kernel
example : lower "a.b.acme.example.com.".toList = "a".toList ++ '.' :: "b".toList ++ '.' :: zFull := by
  unfold zFull
  repeat rw [String.toList_ofList]
  decide +kernel
example : ('.' :: zFull).isSuffixOf (lower "tokenxacme.example.com.".toList) = false := by
  unfold zFull
  repeat rw [String.toList_ofList]
  decide +kernel
example : WellFormedAt zFull "managed".toList := by
  unfold zFull
  repeat rw [String.toList_ofList]
  exact wellFormed_of_distinct_labels ['a', 'c', 'm', 'e'] ['e', 'x', 'a', 'm', 'p', 'l', 'e'] ['c', 'o', 'm', '.'] _
    (by decide +kernel) (by decide +kernel) (by decide +kernel) (by decide +kernel)

end Specter.C48
