import SpecterModel.C24.Model
import SpecterModel.C24.Gen
/-!
# C24 — Opening an existing SQLite database never damages its data

Theorems about `openDb Gen.facts` (the model of `sqlite3.New` = `migrate` + `prepareStatements`,
instantiated with the facts regenerated from the source on every run) over **every** database:
any `user_version : Int` (SQLite's is a signed 32-bit value, so negative ones exist too), any of the
2^5 present/absent combinations of the v1 objects, any rows of any type, and any set of v1 names
occupied by a foreign object of the other kind (`clash`) — the situation in which a statement in the
middle of the migration script fails after earlier statements have already run.
-/
namespace Specter.C24
open Gen

variable {ρ : Type}

def tablesPresent (db : Db ρ) : Prop := ∀ o ∈ Obj.tables, present db o = true
def complete (db : Db ρ) : Prop := ∀ o ∈ Obj.all, present db o = true
def rowsKept (db db' : Db ρ) : Prop := ∀ o rows, db.tab o = some rows → db'.tab o = some rows

theorem mem_all (o : Obj) : o ∈ Obj.all := by cases o <;> decide

theorem complete.tablesPresent {db : Db ρ} (h : complete db) : tablesPresent db := fun o _ => h o (mem_all o)

theorem rowsKept.refl (db : Db ρ) : rowsKept db db := fun _ _ h => h

/-! ### the migration script, statement by statement (any script, any database) -/

theorem present_of_rowsKept {db db' : Db ρ} (h : rowsKept db db') {o : Obj} (hp : present db o = true) :
    present db' o = true := by
  unfold present at *
  rcases ho : db.tab o with _ | rows
  · simp [ho] at hp
  · simp [h o rows ho]

theorem create_spec {db db' : Db ρ} {c : Obj × Bool} (h : create db c = some db') :
    db'.uv = db.uv ∧ db'.clash = db.clash ∧ rowsKept db db' ∧ present db' c.1 = true := by
  revert h
  fun_cases create db c
  all_goals intro h; cases h
  -- the name exists, IF NOT EXISTS: nothing changes
  · next hp _ => exact ⟨rfl, rfl, .refl db, hp⟩
  -- the name is free: a new empty object, every existing row is under another name
  · next hp _ =>
    refine ⟨rfl, rfl, fun o rows ho => ?_, by simp [present, upd]⟩
    have hne : o ≠ c.1 := fun e => hp (by simp [present, ← e, ho])
    simp [upd, hne, ho]

/-- a script that ran to its end: version, foreign objects and every existing row untouched, every object it names exists -/
theorem execScript_ok : ∀ (cs : List (Obj × Bool)) (db db' : Db ρ), execScript cs db = (true, db') →
    db'.uv = db.uv ∧ db'.clash = db.clash ∧ rowsKept db db' ∧ ∀ c ∈ cs, present db' c.1 = true := by
  intro cs db db' h
  fun_induction execScript cs db with
  | case1 => cases h; exact ⟨rfl, rfl, .refl _, nofun⟩
  | case2 => cases h
  | case3 c cs db db1 hc ih =>
    obtain ⟨a1, b1, c1, d1⟩ := create_spec hc
    obtain ⟨a2, b2, c2, d2⟩ := ih h
    exact ⟨a2.trans a1, b2.trans b1, fun o r ho => c2 o r (c1 o r ho),
      List.forall_mem_cons.2 ⟨present_of_rowsKept c2 d1, d2⟩⟩

/-- when a script of `IF NOT EXISTS` statements runs to its end: exactly when no name it has to
create is occupied by a foreign object of the other kind -/
theorem execScript_ok_iff : ∀ (cs : List (Obj × Bool)) (_ : ∀ c ∈ cs, c.2 = true) (db : Db ρ),
    (execScript cs db).1 = true ↔ ∀ c ∈ cs, present db c.1 = true ∨ db.clash c.1 = false
  | [], _, db => by simp [execScript]
  | c :: cs, hall, db => by
    obtain ⟨hc2, hall'⟩ := List.forall_mem_cons.1 hall
    rw [execScript, List.forall_mem_cons]
    fun_cases create db c
    · next hp _ =>
      simp only [hp, true_or, true_and]
      exact execScript_ok_iff cs hall' db
    · next h2 => exact absurd hc2 h2
    · next hp hcl => simp [hp, hcl]
    · next hp hcl =>
      simp only [hcl, or_true, true_and]
      rw [execScript_ok_iff cs hall' _]
      -- a later statement either names the object just created, whose name is free, or sees what it saw before
      refine forall₂_congr fun c' _ => ?_
      by_cases e : c'.1 = c.1
      · simp [e, hcl]
      · simp [present, upd, e]

/-! ### what the proofs use of the regenerated facts

Of the generated object lists only the sets of members matter, so the statements below do not depend on
the order in which the extractor prints them. -/

/-- the `CREATE` statements of the (single) embedded migration -/
def script : List (Obj × Bool) := match facts.migrations with
  | [m] => m.creates
  | _ => []

theorem latest_facts : latest facts = 1 := by decide
theorem transactional : facts.txMigration = true := by decide
theorem migrations_eq : facts.migrations = [⟨1, script⟩] := rfl
theorem script_if_not_exists : ∀ c ∈ script, c.2 = true := by decide
theorem script_covers (o : Obj) : ∃ c ∈ script, c.1 = o := by cases o <;> decide
theorem looksObjs_all (o : Obj) : o ∈ facts.looksObjs := by cases o <;> decide
theorem anyObjs_all (o : Obj) : o ∈ facts.anyObjs := by cases o <;> decide
theorem prepared_iff (o : Obj) : o ∈ facts.prepared ↔ o ∈ Obj.tables := by cases o <;> decide

theorem looksLikeV1_iff (db : Db ρ) : looksLikeV1 facts db = true ↔ complete db := by
  rw [looksLikeV1, List.all_eq_true]
  exact ⟨fun h o _ => h o (looksObjs_all o), fun h o _ => h o (mem_all o)⟩

theorem hasAnyV1_iff (db : Db ρ) : hasAnyV1 facts db = true ↔ ¬ ∀ o ∈ Obj.all, present db o = false := by
  rw [← Bool.not_eq_false, hasAnyV1, List.any_eq_false]
  simp only [Bool.not_eq_true]
  exact not_congr ⟨fun h o _ => h o (anyObjs_all o), fun h o _ => h o (mem_all o)⟩

theorem prepare_iff (db : Db ρ) : prepare facts db = true ↔ tablesPresent db := by
  rw [prepare, List.all_eq_true]
  exact forall_congr' fun o => by rw [prepared_iff]

theorem script_ok_iff (db : Db ρ) :
    (execScript script db).1 = true ↔ ∀ o ∈ Obj.all, present db o = true ∨ db.clash o = false := by
  rw [execScript_ok_iff script script_if_not_exists db]
  constructor
  · intro h o _
    obtain ⟨c, hc, e⟩ := script_covers o
    rw [← e]; exact h c hc
  · intro h c _
    exact h c.1 (mem_all c.1)

theorem script_complete {db db' : Db ρ} (h : execScript script db = (true, db')) : complete db' := fun o _ =>
  let ⟨c, hc, e⟩ := script_covers o
  e ▸ (execScript_ok _ _ _ h).2.2.2 c hc

theorem not_complete_of_absent {db : Db ρ} (hf : ∀ o ∈ Obj.all, present db o = false) : ¬ complete db :=
  fun hc => Bool.false_ne_true ((hf _ (mem_all .idxHash)).symm.trans (hc _ (mem_all _)))

/-! ### `New`, branch by branch -/

theorem openDb_of_refuse {F : Facts} {db db' : Db ρ} (h : migrate F db = (.refuse, db')) :
    openDb F db = (.refuse, db') := by
  rw [openDb, h]

theorem openDb_of_ok {F : Facts} {db db' : Db ρ} (h : migrate F db = (.ok, db')) :
    openDb F db = (if prepare F db' then .ok else .refuse, db') := by
  rw [openDb, h]
  dsimp only
  split <;> rfl

theorem openDb_current (F : Facts) (db : Db ρ) (h : db.uv = latest F) :
    openDb F db = (if prepare F db then .ok else .refuse, db) :=
  openDb_of_ok (by rw [migrate, if_pos h])

theorem openDb_newer (F : Facts) (db : Db ρ) (h : latest F < db.uv) : openDb F db = (.refuse, db) :=
  openDb_of_refuse (by rw [migrate, if_neg (by omega), if_pos h])

/-- A database from a newer version (`user_version` above the latest embedded migration) is refused and
left exactly as it was, whatever objects and rows it contains — in particular when it carries the
complete v1 schema and so *looks like* a legacy database to `schemaLooksLikeV1`. -/
theorem open_newer_refused (db : Db ρ) (h : latest facts < db.uv) : openDb facts db = (.refuse, db) :=
  openDb_newer facts db h

theorem open_legacy (db : Db ρ) (h : db.uv = 0) (hc : complete db) :
    openDb facts db = (.ok, { db with uv := 1 }) := by
  have hm : migrate facts db = (.ok, { db with uv := 1 }) := by
    rw [migrate, latest_facts, if_neg (by omega), if_neg (by omega), if_pos h,
      if_pos ((looksLikeV1_iff db).2 hc)]
    rfl
  rw [openDb_of_ok hm, if_pos ((prepare_iff { db with uv := 1 }).2 hc.tablesPresent)]

theorem open_partial (db : Db ρ) (h : db.uv = 0) (hc : ¬ complete db)
    (ha : ¬ ∀ o ∈ Obj.all, present db o = false) : openDb facts db = (.refuse, db) :=
  openDb_of_refuse (by
    rw [migrate, latest_facts, if_neg (by omega), if_neg (by omega), if_pos h,
      if_neg (mt (looksLikeV1_iff db).1 hc), if_pos ((hasAnyV1_iff db).2 ha)])

/-- `New` when `migrate` goes straight to the migration loop (negative version, or fresh file): the
script runs inside `applyMigration`'s transaction; on an error nothing of it stays -/
theorem open_via_script (db : Db ρ) (hrun : db.uv < 0 ∨ (db.uv = 0 ∧ ∀ o ∈ Obj.all, present db o = false)) :
    (∃ db', execScript script db = (true, db') ∧ openDb facts db = (.ok, { db' with uv := 1 })) ∨
    ((execScript script db).1 = false ∧ openDb facts db = (.refuse, db)) := by
  have hm : migrate facts db = runMigrations facts db.uv facts.migrations db := by
    rw [migrate, latest_facts, if_neg (by omega), if_neg (by omega)]
    rcases hrun with h | ⟨h, hf⟩
    · rw [if_neg (by omega)]
    · rw [if_pos h, if_neg (mt (looksLikeV1_iff db).1 (not_complete_of_absent hf)),
        if_neg fun ha => (hasAnyV1_iff db).1 ha hf, h]
  have hlt : ¬ (1 : Int) ≤ db.uv := by omega
  rw [migrations_eq, runMigrations, if_neg hlt, applyMigration] at hm
  rcases h : execScript script db with ⟨_ | _, db'⟩
  · right
    rw [h, transactional] at hm
    exact ⟨rfl, openDb_of_refuse hm⟩
  · left
    rw [h] at hm
    refine ⟨db', rfl, ?_⟩
    rw [openDb_of_ok hm, if_pos ((prepare_iff { db' with uv := 1 }).2 (script_complete h).tablesPresent)]

theorem ok_via_script_iff (db : Db ρ) (hrun : db.uv < 0 ∨ (db.uv = 0 ∧ ∀ o ∈ Obj.all, present db o = false)) :
    (openDb facts db).1 = .ok ↔ ∀ o ∈ Obj.all, present db o = true ∨ db.clash o = false := by
  rw [← script_ok_iff]
  rcases open_via_script db hrun with ⟨db', h1, h2⟩ | ⟨h1, h2⟩ <;> simp [h1, h2]

/-- The decision table: `New` succeeds exactly for `user_version = current` with the four tables,
`user_version = 0` with all five objects (legacy) or none of them and none of the five names occupied
by a foreign object of the other kind (fresh), and negative `user_version` when no name that still
has to be created is so occupied (the migration is applied with IF NOT EXISTS on whatever is there). -/
theorem open_outcome_table (db : Db ρ) :
    (openDb facts db).1 = .ok ↔
      (db.uv = 1 ∧ tablesPresent db) ∨
      (db.uv = 0 ∧ (complete db ∨ ∀ o ∈ Obj.all, present db o = false ∧ db.clash o = false)) ∨
      (db.uv < 0 ∧ ∀ o ∈ Obj.all, present db o = true ∨ db.clash o = false) := by
  by_cases h1 : db.uv = 1
  · simp [openDb_current facts db h1, h1, prepare_iff]
  by_cases h2 : 1 < db.uv
  · simp [open_newer_refused db h2, h1, show ¬ db.uv = 0 by omega, show ¬ db.uv < 0 by omega]
  by_cases h0 : db.uv = 0
  · by_cases hc : complete db
    · simp [open_legacy db h0 hc, h0, hc]
    by_cases hf : ∀ o ∈ Obj.all, present db o = false
    · simp [ok_via_script_iff db (.inr ⟨h0, hf⟩), h0, hc, fun o => hf o (mem_all o)]
    · have : ¬ ∀ o ∈ Obj.all, present db o = false ∧ db.clash o = false := fun h => hf fun o ho => (h o ho).1
      simp [open_partial db h0 hc hf, h0, hc, this]
  · have hn : db.uv < 0 := by omega
    simp [ok_via_script_iff db (.inl hn), h1, h0, hn]

/-- what the property demands of the result `r` of opening `db` -/
def Safe (db : Db ρ) (r : Outcome × Db ρ) : Prop :=
  (r.1 = .ok → r.2.uv = facts.schemaVersion ∧ tablesPresent r.2 ∧ rowsKept db r.2 ∧ (complete r.2 ∨ db.uv = latest facts)
      ∧ db.uv ≤ r.2.uv ∧ r.2.clash = db.clash) ∧
  (r.1 = .refuse → r.2 = db)

theorem schemaVersion_is_latest : facts.schemaVersion = latest facts := by decide

theorem safe_refuse (db : Db ρ) : Safe db (.refuse, db) := ⟨nofun, fun _ => rfl⟩

theorem safe_via_script (db : Db ρ) (hrun : db.uv < 0 ∨ (db.uv = 0 ∧ ∀ o ∈ Obj.all, present db o = false)) :
    Safe db (openDb facts db) := by
  rcases open_via_script db hrun with ⟨db', h1, h2⟩ | ⟨_, h2⟩
  · obtain ⟨_, hcl, hrows, _⟩ := execScript_ok _ _ _ h1
    have hcomp := script_complete h1
    have hle : db.uv ≤ 1 := by omega
    rw [h2]
    exact ⟨fun _ => ⟨rfl, hcomp.tablesPresent, hrows, .inl hcomp, hle, hcl⟩, nofun⟩
  · rw [h2]; exact safe_refuse db

/-- C24 over every database (any `user_version : Int`, any of the 2^5 object subsets, any rows, any
set of v1 names occupied by foreign objects of the other kind, i.e. also when the migration script
fails part-way): a successful open ends at the current version, all tables present, every
pre-existing row in place, and the schema complete unless the file was already stamped current, and
the version stamp never lowered (so a file from a newer version is never opened); a refused open
changes nothing. -/
theorem open_safe (db : Db ρ) : Safe db (openDb facts db) := by
  by_cases h1 : db.uv = 1
  · rw [openDb_current facts db h1]
    by_cases hp : prepare facts db = true
    · rw [if_pos hp]
      exact ⟨fun _ => ⟨h1, (prepare_iff db).1 hp, .refl db, .inr h1, Int.le_refl _, rfl⟩, nofun⟩
    · rw [if_neg hp]; exact safe_refuse db
  by_cases h2 : 1 < db.uv
  · rw [open_newer_refused db h2]; exact safe_refuse db
  by_cases h0 : db.uv = 0
  · by_cases hc : complete db
    · rw [open_legacy db h0 hc]
      exact ⟨fun _ => ⟨rfl, hc.tablesPresent, .refl db, .inl hc, (by omega : db.uv ≤ 1), rfl⟩, nofun⟩
    by_cases hf : ∀ o ∈ Obj.all, present db o = false
    · exact safe_via_script db (.inr ⟨h0, hf⟩)
    · rw [open_partial db h0 hc hf]; exact safe_refuse db
  · exact safe_via_script db (.inl (by omega))

/-- A refused open leaves the database exactly as it was (version, schema, rows). In particular the
legacy stamp (`user_version := 1`, written outside a transaction) is never followed by a refusal. -/
theorem open_refuse_unchanged (db : Db ρ) (h : (openDb facts db).1 = .refuse) : (openDb facts db).2 = db :=
  (open_safe db).2 h

/-- A migration script that breaks off part-way leaves nothing behind.  Whenever `migrate` runs the
script (negative version, or version 0 with no v1 object) and some name the script still has to
create is occupied by a foreign object of the other kind — so the statement creating it fails, after
the statements before it have run — the open is refused and the database is exactly what it was: no
table or index of the partial script survives, `user_version` is not stamped.  (With the statement
order of `script` as generated, `lease_entries` occupied means four `CREATE`s have succeeded before the error.) -/
theorem open_interrupted_migration_unchanged (db : Db ρ)
    (hrun : db.uv < 0 ∨ (db.uv = 0 ∧ ∀ o ∈ Obj.all, present db o = false))
    (o : Obj) (ha : present db o = false) (hc : db.clash o = true) : openDb facts db = (.refuse, db) := by
  rcases open_via_script db hrun with ⟨db', h1, _⟩ | ⟨_, h2⟩
  · have := (script_ok_iff db).1 (by rw [h1]) o (mem_all o)
    simp [ha, hc] at this
  · exact h2

/-- A successful open ends at the current version with all four tables usable and every existing row
still in place. -/
theorem open_ok_preserves (db : Db ρ) (h : (openDb facts db).1 = .ok) :
    (openDb facts db).2.uv = facts.schemaVersion ∧ tablesPresent (openDb facts db).2 ∧
      rowsKept db (openDb facts db).2 :=
  let ⟨huv, htables, hrows, _⟩ := (open_safe db).1 h; ⟨huv, htables, hrows⟩

/-- A successful open never lowers `user_version`: the stamp only moves forward, by migrations. -/
theorem open_never_downgrades (db : Db ρ) (h : (openDb facts db).1 = .ok) : db.uv ≤ (openDb facts db).2.uv :=
  let ⟨_, _, _, _, hle, _⟩ := (open_safe db).1 h; hle

/-- `open_safe` with `complete` unconditionally (`ok → complete ∧ uv = current ∧ rows kept; refuse → unchanged`)
is FALSE of the code for exactly one family (`open_ok_incomplete_witness`): a database already stamped
`user_version = 1` whose `idx_hash` is missing is opened as-is (`migrate` returns early, `prepareStatements`
does not need the index).  Proved here: that stronger statement for every database that is not already stamped current. -/
theorem open_schema_complete_partial (db : Db ρ) (hne : db.uv ≠ latest facts) :
    ((openDb facts db).1 = .ok →
        complete (openDb facts db).2 ∧ (openDb facts db).2.uv = facts.schemaVersion ∧ rowsKept db (openDb facts db).2) ∧
    ((openDb facts db).1 = .refuse → (openDb facts db).2 = db) := by
  refine ⟨fun h => ?_, open_refuse_unchanged db⟩
  obtain ⟨huv, _, hrows, hcomplete, _⟩ := (open_safe db).1 h
  exact ⟨hcomplete.resolve_right hne, huv, hrows⟩

/-- The exception is real: stamped-current database, four tables, no index → opened, index still missing. -/
def staleIndexDb : Db Nat :=
  { uv := 1, tab := fun o => match o with | .idxHash => none | .simpleEntries => some [7, 8] | _ => some [] }

theorem open_ok_incomplete_witness :
    (openDb facts staleIndexDb).1 = .ok ∧ present (openDb facts staleIndexDb).2 .idxHash = false := by decide +kernel

/-- a fresh file in which a foreign index is called `lease_entries` (the last statement of the script fails) -/
def occupiedDb : Db Nat := { uv := 0, tab := fun _ => none, clash := fun o => o == .leaseEntries }

/-- The transaction in `applyMigration` is what the property rests on: the very same opener with the
script executed statement by statement on the handle (`txMigration := false`) refuses `occupiedDb`
and leaves `key_trackers` (and more) behind in a file that had no v1 object. -/
theorem rollback_needed_witness :
    (openDb { facts with txMigration := false } occupiedDb).1 = .refuse ∧
    present occupiedDb .keyTrackers = false ∧
    present (openDb { facts with txMigration := false } occupiedDb).2 .keyTrackers = true ∧
    (execScript script occupiedDb).1 = false ∧ present (execScript script occupiedDb).2 .prefixEntries = true := by
  decide +kernel

/-! ### non-vacuity: each branch of the table is inhabited -/
def freshDb : Db Nat := { uv := 0, tab := fun _ => none }
def legacyDb : Db Nat := { uv := 0, tab := fun o => match o with | .simpleEntries => some [1, 2, 3] | _ => some [] }
def partialDb : Db Nat := { uv := 0, tab := fun o => match o with | .simpleEntries => some [1] | _ => none }
def stampedMissingTable : Db Nat := { uv := 1, tab := fun o => match o with | .leaseEntries => none | _ => some [5] }
def newerDb : Db Nat := { uv := 2, tab := fun _ => some [] }
/-- a newer-version file as it really looks: complete v1 schema, rows -/
def newerFullDb : Db Nat := { uv := 2, tab := fun o => match o with | .idxHash => some [] | _ => some [4, 5] }

example : (openDb facts freshDb).1 = .ok ∧ (openDb facts freshDb).2.uv = 1 ∧
    (Obj.all.all (present (openDb facts freshDb).2)) = true := by decide +kernel
example : (openDb facts legacyDb).1 = .ok ∧ (openDb facts legacyDb).2.uv = 1 ∧
    (openDb facts legacyDb).2.tab .simpleEntries = some [1, 2, 3] := by decide +kernel
example : (openDb facts partialDb).1 = .refuse := by decide +kernel
example : (openDb facts stampedMissingTable).1 = .refuse := by decide +kernel
example : (openDb facts newerDb).1 = .refuse := by decide +kernel
example : legacyDb.uv ≠ latest facts := by decide +kernel
example : latest facts < newerFullDb.uv ∧ looksLikeV1 facts newerFullDb = true := by decide +kernel
example : (openDb facts newerFullDb).1 = .refuse ∧ (openDb facts newerFullDb).2.uv = 2 := by decide +kernel
example : (openDb facts legacyDb).1 = .ok ∧ legacyDb.uv < (openDb facts legacyDb).2.uv := by decide +kernel
-- the interrupted migration: hypotheses of `open_interrupted_migration_unchanged` are satisfiable, and the
-- refused file really has no v1 object afterwards although the script had created four before failing
example : (occupiedDb.uv = 0 ∧ ∀ o ∈ Obj.all, present occupiedDb o = false) ∧
    present occupiedDb .leaseEntries = false ∧ occupiedDb.clash .leaseEntries = true := by decide +kernel
example : (openDb facts occupiedDb).1 = .refuse ∧
    (Obj.all.all fun o => !present (openDb facts occupiedDb).2 o) = true ∧ (openDb facts occupiedDb).2.uv = 0 := by decide +kernel
/-- negative version on top of existing rows, `idx_hash` taken by a foreign table -/
def negOccupiedDb : Db Nat :=
  { uv := -1, tab := fun o => match o with | .keyTrackers => some [1, 2] | _ => none, clash := fun o => o == .idxHash }
example : (openDb facts negOccupiedDb).1 = .refuse ∧ (openDb facts negOccupiedDb).2.tab .keyTrackers = some [1, 2] ∧
    present (openDb facts negOccupiedDb).2 .simpleEntries = false := by decide +kernel
-- `execScript_ok_iff` both ways on concrete scripts
example : (execScript script freshDb).1 = true ∧ (execScript script occupiedDb).1 = false := by decide +kernel

end Specter.C24
