import SpecterModel.C51.Model
import SpecterModel.C12.Props
/-!
# C51 — Clients are offered at most three distinct gateway endpoints

For ALL local addresses, successor lists (with nil entries and repeated addresses = virtual nodes of one
physical node) and ALL contents of the destination records. The selection loop is C12's (`succLoop_eq_loop`).
-/
namespace Specter.C51

/-! ## `MakeSuccListByAddress`

Branches of `succLoop`: list exhausted, `break`, nil successor, address already taken, new address. -/

/-- C12's generic loop keyed by the address itself; the Go map `seen` = the addresses collected so far -/
theorem succLoop_eq_loop (m : Nat) (ss : List (Option String)) (acc seen : List String)
    (h : C12.SeenInv id acc seen) : succLoop m ss acc = C12.loop id m ss acc seen := by
  fun_induction succLoop m ss acc generalizing seen with
  | case1 acc => rfl
  | case2 s rest acc hfull => cases s <;> rw [C12.loop, if_pos hfull]
  | case3 rest acc hroom ih => rw [C12.loop, if_neg hroom]; exact ih seen h
  | case4 rest acc hroom a hm ih =>
    rw [C12.loop, if_neg hroom, if_pos (show id a ∈ seen from (h a).mpr (by rwa [List.map_id]))]
    exact ih seen h
  | case5 rest acc hroom a hm ih =>
    rw [C12.loop, if_neg hroom, if_neg (fun hs : id a ∈ seen => hm (List.map_id acc ▸ (h a).mp hs))]
    exact ih _ (C12.seenInv_step h a)

theorem makeSuccList_eq (self : String) (succs : List (Option String)) (m : Nat) :
    makeSuccList self succs m = C12.makeSuccList id self succs m :=
  succLoop_eq_loop m succs [self] [self] (C12.seenInv_init id self)

/-- the list is only cut short when it is full: below the bound every live successor address is in it
(from any accumulator, not only `[self]`, and with no distinctness assumed) -/
theorem succLoop_complete (m : Nat) (ss : List (Option String)) (acc : List String)
    (hlt : (succLoop m ss acc).length < m) : ∀ a, some a ∈ ss → a ∈ succLoop m ss acc := by
  have hinv : C12.SeenInv id acc acc := fun k => by rw [List.map_id]
  intro a ha
  have := C12.loop_complete id m ss acc acc hinv a ha
  rw [← succLoop_eq_loop m ss acc acc hinv, List.map_id] at this
  exact this.resolve_right (Nat.not_le.mpr hlt)

/-- C51 (selection): the candidates start with the node itself, are pairwise distinct physical nodes
(addresses), at most `maxLen`, taken in successor order, and as many as available up to the bound. -/
theorem makeSuccList_spec (self : String) (succs : List (Option String)) (m : Nat) (hm : 1 ≤ m) :
    let l := makeSuccList self succs m
    l.head? = some self ∧ l.Nodup ∧ l.length ≤ m
    ∧ (∃ t, l = self :: t ∧ t.Sublist (succs.filterMap id))
    ∧ (l.length < m → ∀ a, some a ∈ succs → a ∈ l) := by
  intro l
  obtain ⟨⟨t, hl, hs⟩, hnd, hlen⟩ := C12.makeSuccList_spec id self succs m
  rw [← makeSuccList_eq] at hl hnd hlen
  rw [List.map_id] at hnd
  rw [Nat.max_eq_right hm] at hlen
  exact ⟨by rw [show l = _ from hl]; rfl, hnd, hlen, ⟨t, hl, hs⟩, succLoop_complete m succs [self]⟩

/-! ## `GetNodes` -/

theorem lookup_ok_iff (dest : String → Rec) (a : String) (t : Option String) :
    lookup dest a = .ok t ↔ dest a = .found t := by
  fun_cases lookup dest a <;> simp [*]

theorem lookupAll_ok_iff (dest : String → Rec) (l : List String) (ts : List (Option String)) :
    lookupAll dest l = .ok ts ↔ l.map dest = ts.map Rec.found := by
  -- no candidate; its record fails; a later record fails; all found
  fun_induction lookupAll dest l generalizing ts with
  | case1 => cases ts <;> simp
  | case2 a rest e h1 ih => cases ts <;> simp [← lookup_ok_iff, h1]
  | case3 a rest t e h2 h1 ih => cases ts <;> simp [← ih, h2]
  | case4 a rest t ts' h2 h1 ih => cases ts <;> simp [← lookup_ok_iff, h1, ← ih, h2]

/-- C51: a successful answer has at most three entries, one per distinct physical candidate starting with
the node itself, each being the Tunnel field of that node's published destination record. -/
theorem getNodes_ok (m : Nat) (hm : 1 ≤ m) (self : String) (succs : Option (List (Option String)))
    (dest : String → Rec) (ts : List (Option String)) (h : getNodes m self succs dest = .ok ts) :
    ∃ ss, succs = some ss
      ∧ ts.length = (makeSuccList self ss m).length ∧ ts.length ≤ m ∧ 1 ≤ ts.length
      ∧ (makeSuccList self ss m).Nodup
      ∧ (∀ i (hi : i < ts.length) (hi' : i < (makeSuccList self ss m).length),
            dest ((makeSuccList self ss m)[i]) = .found ts[i])
      ∧ dest self = .found (ts.head?.join) := by
  cases succs with
  | none => cases h
  | some ss =>
    have hmap := (lookupAll_ok_iff dest _ ts).mp h
    have hlen : ts.length = (makeSuccList self ss m).length := by
      simpa using (congrArg List.length hmap).symm
    obtain ⟨hhead, hnd, hle, ⟨t, hl, _⟩, _⟩ := makeSuccList_spec self ss m hm
    refine ⟨ss, rfl, hlen, by omega, by rw [hlen, hl]; simp, hnd, ?_, ?_⟩
    · intro i hi hi'
      have := List.getElem_of_eq hmap (i := i) (by simpa using hi')
      rwa [List.getElem_map, List.getElem_map] at this
    · rw [hl] at hmap
      cases ts with
      | nil => simp at hmap
      | cons t0 ts' => simp at hmap; simp [hmap.1]

/-- C51: if any candidate's destination record is missing / undecodable / unreadable the call fails —
there is no partial answer. -/
theorem getNodes_fails_if_any_record_missing (m : Nat) (self : String) (ss : List (Option String))
    (dest : String → Rec) (a : String) (ha : a ∈ makeSuccList self ss m) (hbad : ∀ t, dest a ≠ .found t) :
    ∃ e, getNodes m self (some ss) dest = .error e := by
  cases h : getNodes m self (some ss) dest with
  | error e => exact ⟨e, rfl⟩
  | ok ts =>
    exfalso
    have hmap := (lookupAll_ok_iff dest _ ts).mp h
    have : dest a ∈ (makeSuccList self ss m).map dest := List.mem_map_of_mem ha
    rw [hmap] at this
    obtain ⟨t, _, ht⟩ := List.mem_map.mp this
    exact hbad t ht.symm

/-- conversely, when every candidate has a decodable record the call succeeds. -/
theorem getNodes_succeeds (m : Nat) (self : String) (ss : List (Option String)) (dest : String → Rec)
    (hall : ∀ a ∈ makeSuccList self ss m, ∃ t, dest a = .found t) :
    ∃ ts, getNodes m self (some ss) dest = .ok ts := by
  refine ⟨(makeSuccList self ss m).map fun a => match dest a with | .found t => t | _ => none, ?_⟩
  rw [getNodes, lookupAll_ok_iff, List.map_map]
  refine List.map_congr_left fun a ha => ?_
  obtain ⟨t, ht⟩ := hall a ha
  simp [ht]

theorem numLinks_eq : numLinks = 3 := by decide

/-- the bound of the property statement, on the generated constant. -/
theorem at_most_three (self : String) (succs : Option (List (Option String))) (dest : String → Rec)
    (ts : List (Option String)) (h : getNodes numLinks self succs dest = .ok ts) : ts.length ≤ 3 := by
  obtain ⟨_, _, _, hle, _⟩ := getNodes_ok numLinks (by rw [numLinks_eq]; omega) self succs dest ts h
  rw [numLinks_eq] at hle; exact hle

/-! ## non-vacuity -/

deriving instance DecidableEq for Except

private def d : String → Rec
  | "a" => .found (some "ta") | "b" => .found (some "tb") | "c" => .found none | "d" => .missing | _ => .missing

example : getNodes 3 "a" (some [some "a", some "b", none, some "b", some "c", some "d"]) d
    = .ok [some "ta", some "tb", none] := by decide +kernel
example : getNodes 3 "a" (some [some "b", some "d", some "c"]) d = .error (.missing "d") := by decide +kernel
example : getNodes 3 "a" (some [some "a", some "a"]) d = .ok [some "ta"] := by decide +kernel
example : makeSuccList "a" [some "b", some "a", some "b"] 3 = ["a", "b"] := by decide +kernel
example : "d" ∈ makeSuccList "a" [some "b", some "d", some "c"] 3 ∧ d "d" = .missing := by decide +kernel

end Specter.C51
