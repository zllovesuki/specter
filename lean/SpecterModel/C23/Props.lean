import SpecterModel.C23.Model
/-!
# C23 — The SQLite store keeps every committed operation across a crash; listings stay consistent

All theorems are about `Model.lean`, for ALL histories of API calls, keys, values and hash functions:
the tracker table (what `ListKeys`/`RangeKeys` read) agrees with the three data tables after any history,
and under SQLite's transaction atomicity (the explicit crash semantics `Recovered`) a kill leaves the
consistent state of a prefix of the issued calls containing all acknowledged ones.  Durability of a COMMIT
against a process kill (WAL, synchronous=NORMAL) is SQLite behaviour: exercised by the harness, not proved.
-/
namespace Specter.C23

/-- which kinds of data the tables hold for `k` -/
def pres (st : Store) (k : String) : Flags := ⟨(st.simple k).isSome, !(st.pfx k).isEmpty, (st.lease k).isSome⟩
/-- the flags the tracker (and hence `ListKeys`) reports for `k` -/
def tflags (st : Store) (k : String) : Flags := match st.tracker k with | none => Flags.zero | some (_, f) => f

/-- at key `k` the tracker reports exactly what the tables hold, and no row carries zero flags -/
def KInv (st : Store) (k : String) : Prop :=
  tflags st k = pres st k ∧ ∀ hv f, st.tracker k = some (hv, f) → f ≠ Flags.zero
def FInv (st : Store) : Prop := ∀ k, KInv st k
/-- every stored hash is the hash of its key under `h` -/
def HInv (h : String → Nat) (st : Store) : Prop := ∀ k hv f, st.tracker k = some (hv, f) → hv = h k

@[simp] theorem fset_same {α} (f : String → α) (k : String) (v : α) : fset f k v k = v := by simp [fset]
theorem fset_other {α} (f : String → α) (k k' : String) (v : α) (h : k' ≠ k) : fset f k v k' = f k' := by simp [fset, h]

/-- `hd`: every call site passes `add = 0` or `rem = 0`, and `updateKeyTracker` ignores `rem` when it creates the row -/
theorem updTracker_spec (h : String → Nat) (st : Store) (k : String) (add rem : Flags)
    (hd : add = Flags.zero ∨ rem = Flags.zero)
    (st' : Store) (hok : updTracker h st k add rem = .ok st') :
    st'.simple = st.simple ∧ st'.pfx = st.pfx ∧ st'.lease = st.lease ∧
    (∀ k', k' ≠ k → st'.tracker k' = st.tracker k') ∧
    tflags st' k = ((tflags st k).or add).andNot (remEff st k rem) ∧
    (∀ hv f, st'.tracker k = some (hv, f) → f ≠ Flags.zero ∧ hv = h k) := by
  revert hok
  unfold tflags
  fun_cases updTracker h st k add rem
  case case1 htr hz =>
    -- no row, nothing to add
    rintro ⟨⟩
    refine ⟨rfl, rfl, rfl, fun _ _ => rfl, ?_, ?_⟩
    · rw [htr, hz]; rfl
    · intro hv f hf; rw [htr] at hf; cases hf
  case case2 htr hz =>
    -- no row: created with the added flags (`rem` is zero then)
    rintro ⟨⟩
    refine ⟨rfl, rfl, rfl, fun k' hk' => fset_other _ _ _ _ hk', ?_, ?_⟩
    · rw [htr, hd.resolve_left hz]
      simp [Flags.or, Flags.andNot, Flags.zero, remEff]
    · intro hv f hf
      simp only [fset_same] at hf
      cases hf
      exact ⟨hz, rfl⟩
  case case3 =>
    -- stored hash differs: the call fails
    rintro ⟨⟩
  case case4 hv f htr hh nf hz =>
    -- all flags gone: row deleted
    rintro ⟨⟩
    refine ⟨rfl, rfl, rfl, fun k' hk' => fset_other _ _ _ _ hk', ?_, ?_⟩
    · simp only [fset_same, htr]; exact hz.symm
    · intro hv' f' hf; simp only [fset_same] at hf; cases hf
  case case5 hv f htr hh nf hz =>
    -- row keeps its hash, gets the new flags
    rintro ⟨⟩
    refine ⟨rfl, rfl, rfl, fun k' hk' => fset_other _ _ _ _ hk', ?_, ?_⟩
    · simp only [fset_same, htr]; rfl
    · intro hv' f' hf
      simp only [fset_same] at hf
      cases hf
      exact ⟨hz, Decidable.not_not.1 hh⟩

theorem upd_preserves (h : String → Nat) {st0 st : Store} {k : String} {add rem : Flags} {st' : Store}
    (hinv : FInv st0) (hok : updTracker h st k add rem = .ok st') (htr : st.tracker = st0.tracker)
    (hother : ∀ k', k' ≠ k → pres st k' = pres st0 k')
    (hd : add = Flags.zero ∨ rem = Flags.zero)
    (hflags : ((pres st0 k).or add).andNot (remEff st k rem) = pres st k) : FInv st' := by
  obtain ⟨hsimple, hpfx, hlease, hrest, hnew, hrow⟩ := updTracker_spec h st k add rem hd st' hok
  have hpres : ∀ k', pres st' k' = pres st k' := fun k' => by rw [pres, hsimple, hpfx, hlease]; rfl
  intro k'
  by_cases hk : k' = k
  · subst hk
    refine ⟨?_, fun hv f hf => (hrow hv f hf).1⟩
    have ht : tflags st k' = pres st0 k' := by rw [tflags, htr]; exact (hinv k').1
    rw [hnew, ht, hflags, hpres]
  · have ht : st'.tracker k' = st0.tracker k' := by rw [hrest k' hk, htr]
    refine ⟨?_, fun hv f hf => (hinv k').2 hv f (ht ▸ hf)⟩
    rw [hpres, hother k' hk, ← (hinv k').1, tflags, tflags, ht]

theorem upd_preserves_hash (h : String → Nat) {st0 st : Store} {k : String} {add rem : Flags} {st' : Store}
    (hinv : HInv h st0) (hok : updTracker h st k add rem = .ok st') (htr : st.tracker = st0.tracker)
    (hd : add = Flags.zero ∨ rem = Flags.zero) : HInv h st' := by
  obtain ⟨_, _, _, hrest, _, hrow⟩ := updTracker_spec h st k add rem hd st' hok
  intro k' hv f hf
  by_cases hk : k' = k
  · subst hk; exact (hrow hv f hf).2
  · rw [hrest k' hk, htr] at hf; exact hinv k' hv f hf

theorem addChild_ne (l : List String) (c : String) : (addChild l c).isEmpty = false := by
  fun_cases addChild l c
  · next hm => cases l with
    | nil => simp at hm
    | cons => rfl
  · rfl

theorem foldl_addChild_isEmpty (cs l : List String) :
    (cs.foldl addChild l).isEmpty = (l.isEmpty && cs.isEmpty) := by
  induction cs generalizing l with
  | nil => simp
  | cons c cs ih => simp [List.foldl, ih, addChild_ne]

section
-- the flag arithmetic becomes Boolean identities on the three bits
attribute [local simp] pres Flags.or Flags.andNot remEff Flags.zero Flags.S Flags.P Flags.L fset

theorem pres_importData (st : Store) (k : String) (t : Transfer) :
    pres (importData st k t) k = (pres st k).or (importFlags t) := by
  unfold importData importFlags pres Flags.or
  cases importedSimple t <;> by_cases hl : t.lease = 0 <;>
    simp [hl, foldl_addChild_isEmpty, Bool.not_and]

theorem pres_importData_other (st : Store) (k : String) (t : Transfer) (k' : String) (hk : k' ≠ k) :
    pres (importData st k t) k' = pres st k' := by
  unfold importData
  cases importedSimple t <;> by_cases hl : t.lease = 0 <;> simp [hl, hk]

theorem removeOne_preserves (st : Store) (k : String) (hi : FInv st) : FInv (removeOne st k) := by
  intro k'
  by_cases hk : k' = k
  · subst hk; refine ⟨by simp [tflags, removeOne], ?_⟩
    intro hv f hf; simp [removeOne] at hf
  · refine ⟨?_, ?_⟩
    · have := (hi k').1; simpa [tflags, removeOne, hk] using this
    · intro hv f hf; simp [removeOne, hk] at hf; exact (hi k').2 hv f hf

theorem removeOne_preserves_hash (h : String → Nat) (st : Store) (k : String) (hi : HInv h st) :
    HInv h (removeOne st k) := by
  intro k' hv f hf
  by_cases hk : k' = k
  · subst hk; simp [removeOne] at hf
  · simp [removeOne, hk] at hf; exact hi k' hv f hf

theorem pres_other_simple (st : Store) (k : String) (v : Option String) (k' : String) (hk : k' ≠ k) :
    pres { st with simple := fset st.simple k v } k' = pres st k' := by simp [hk]
theorem pres_other_pfx (st : Store) (k : String) (v : List String) (k' : String) (hk : k' ≠ k) :
    pres { st with pfx := fset st.pfx k v } k' = pres st k' := by simp [hk]
theorem pres_other_lease (st : Store) (k : String) (v : Option Nat) (k' : String) (hk : k' ≠ k) :
    pres { st with lease := fset st.lease k v } k' = pres st k' := by simp [hk]

theorem premove_flags (st : Store) (k : String) (l' : List String)
    (hsub : l'.isEmpty = false → (st.pfx k).isEmpty = false) :
    ((pres st k).or Flags.zero).andNot (remEff { st with pfx := fset st.pfx k l' } k Flags.P) =
      pres { st with pfx := fset st.pfx k l' } k := by
  cases hl : l'.isEmpty with
  | true => simp [hl]
  | false => simp [hl, hsub hl]

/-- Rule induction over one API call. `body` writes in two ways only: it changes the data tables at one key
`k` (tracker untouched) and then calls `updateKeyTracker(k, add, rem)` with flags that describe the change —
every call but `RemoveKeys`, and each element of `Import` — or it removes a key from all four tables. A failed
call rolls back. -/
theorem step_induction (I : Store → Prop) (h : String → Nat)
    (hupd : ∀ {st0 st : Store} {k : String} {add rem : Flags} {st' : Store}, I st0 →
      updTracker h st k add rem = .ok st' → st.tracker = st0.tracker →
      (∀ k', k' ≠ k → pres st k' = pres st0 k') → (add = Flags.zero ∨ rem = Flags.zero) →
      ((pres st0 k).or add).andNot (remEff st k rem) = pres st k → I st')
    (hrem : ∀ st k, I st → I (removeOne st k))
    (st : Store) (op : Op) (hI : I st) : I (step h st op).1 := by
  unfold step
  rcases hok : body h st op with e | st'
  · exact hI
  show I st'
  revert hok
  fun_cases body h st op
  -- a guard fails: pappend 3 (child exists); acquire 6 (ttl), 8 (held); renew 9 (ttl), 11 (token), 12 (no lease);
  -- release 14 (token), 15 (no lease)
  case case3 | case6 | case8 | case9 | case11 | case12 | case14 | case15 => rintro ⟨⟩
  -- put 1, delete 2
  case case1 => exact fun hok => hupd hI hok rfl (pres_other_simple st _ _) (.inr rfl) (by simp)
  case case2 => exact fun hok => hupd hI hok rfl (pres_other_simple st _ _) (.inl rfl) (by simp)
  -- pappend 4, premove 5
  case case4 => exact fun hok => hupd hI hok rfl (pres_other_pfx st _ _) (.inr rfl) (by simp)
  case case5 k c =>
    refine fun hok => hupd hI hok rfl (pres_other_pfx st k _) (.inl rfl) (premove_flags st k _ fun hf => ?_)
    -- a child survives the filter only if there was one
    cases hl : st.pfx k with
    | nil => simp [hl] at hf
    | cons => rfl
  -- granted: acquire 7, renew 10, release 13
  case case7 => exact fun hok => hupd hI hok rfl (pres_other_lease st _ _) (.inr rfl) (by simp)
  case case10 => exact fun hok => hupd hI hok rfl (pres_other_lease st _ _) (.inr rfl) (by simp)
  case case13 => exact fun hok => hupd hI hok rfl (pres_other_lease st _ _) (.inl rfl) (by simp)
  -- import 16: one update per element
  case case16 items =>
    revert hI
    fun_induction importAll h items st
    case case1 st =>
      rintro hI ⟨⟩
      exact hI
    -- nil transfer, or a failed tracker update
    case case2 | case3 => rintro _ ⟨⟩
    case case4 k t rest st st1 hit ih =>
      refine fun hI => ih (hupd hI hit rfl (pres_importData_other st k t) (.inr rfl) ?_)
      rw [pres_importData]; simp
  -- removeKeys 17
  case case17 ks =>
    rintro ⟨⟩
    exact List.foldlRecOn ks removeOne hI fun st hst k _ => hrem st k hst

end

/-- an API call that returns an error leaves all four tables untouched (ROLLBACK) -/
theorem step_error_unchanged (h : String → Nat) (st : Store) (op : Op) (e : Err)
    (he : (step h st op).2 = some e) : (step h st op).1 = st := by
  revert he
  fun_cases step h st op
  · rintro ⟨⟩
  · exact fun _ => rfl

theorem step_preserves (h : String → Nat) (st : Store) (op : Op) (hi : FInv st) : FInv (step h st op).1 :=
  step_induction FInv h (upd_preserves h) removeOne_preserves st op hi

theorem step_preserves_hash (h : String → Nat) (st : Store) (op : Op) (hi : HInv h st) : HInv h (step h st op).1 :=
  step_induction (HInv h) h
    (fun hi hok htr _ hd _ => upd_preserves_hash h hi hok htr hd)
    (removeOne_preserves_hash h) st op hi

theorem finv_empty : FInv Store.empty := by
  intro k; refine ⟨by simp [tflags, pres, Store.empty, Flags.zero], ?_⟩
  intro hv f hf; simp [Store.empty] at hf

theorem run_preserves (h : String → Nat) (ops : List Op) (st : Store) (hi : FInv st) (hh : HInv h st) :
    FInv (run h st ops) ∧ HInv h (run h st ops) := by
  induction ops generalizing st with
  | nil => exact ⟨hi, hh⟩
  | cons op ops ih => exact ih _ (step_preserves h st op hi) (step_preserves_hash h st op hh)

/-- what "key listings consistent with the stored data" means, table by table -/
structure Consistent (h : String → Nat) (st : Store) : Prop where
  simple : ∀ k, (tflags st k).s = true ↔ st.simple k ≠ none            -- SimpleFlag ↔ row in simple_entries
  pfx : ∀ k, (tflags st k).p = true ↔ st.pfx k ≠ []                    -- PrefixFlag ↔ count(prefix_entries) > 0
  lease : ∀ k, (tflags st k).l = true ↔ st.lease k ≠ none              -- LeaseFlag ↔ row in lease_entries
  row : ∀ k, st.tracker k ≠ none ↔ tflags st k ≠ Flags.zero            -- tracker row exists ↔ flags ≠ 0
  hash : ∀ k hv f, st.tracker k = some (hv, f) → hv = h k              -- stored hash = hashFn key

theorem consistent_of_inv (h : String → Nat) (st : Store) (hi : FInv st) (hh : HInv h st) : Consistent h st := by
  refine ⟨?_, ?_, ?_, ?_, hh⟩
  · intro k; rw [(hi k).1]; simp [pres, Option.isSome_iff_ne_none]
  · intro k; rw [(hi k).1]; simp [pres]
  · intro k; rw [(hi k).1]; simp [pres, Option.isSome_iff_ne_none]
  · intro k
    cases ht : st.tracker k with
    | none => simp [tflags, ht]
    | some e => obtain ⟨hv, f⟩ := e; simp [tflags, ht]; exact (hi k).2 hv f ht

/-- C23: after ANY history of API calls on a store opened empty, the tracker
table agrees with the three data tables, for every key. -/
theorem tracker_consistent (h : String → Nat) (ops : List Op) : Consistent h (run h Store.empty ops) := by
  have := run_preserves h ops Store.empty finv_empty (by intro k hv f hf; simp [Store.empty] at hf)
  exact consistent_of_inv h _ this.1 this.2

/-- The flag part survives even a change of hash function between calls (store re-opened with another
`HashFn`: calls on old keys fail with `ErrKVHashFnChanged` and roll back). -/
theorem flags_consistent_any_hash (hops : List ((String → Nat) × Op)) (st : Store) (hi : FInv st) :
    FInv (hops.foldl (fun s ho => (step ho.1 s ho.2).1) st) :=
  List.foldlRecOn hops _ hi fun st hst ho _ => step_preserves ho.1 st ho.2 hst

/-- Crash semantics (hypothesis = SQLite transaction atomicity): `acked` calls have returned, hence
their transactions are committed; the call in flight (if any) is committed entirely or not at all. -/
inductive Recovered (h : String → Nat) (ops : List Op) (acked : Nat) : Store → Prop
  | notCommitted : acked ≤ ops.length → Recovered h ops acked (run h Store.empty (ops.take acked))
  | committed : acked < ops.length → Recovered h ops acked (run h Store.empty (ops.take (acked + 1)))

/-- C23: whatever the kill point, the recovered store is the store after a prefix
of the issued calls that contains every acknowledged call, and it is consistent. -/
theorem tx_atomic_prefix (h : String → Nat) (ops : List Op) (acked : Nat) (st : Store)
    (hr : Recovered h ops acked st) :
    ∃ n, acked ≤ n ∧ n ≤ acked + 1 ∧ n ≤ ops.length ∧ st = run h Store.empty (ops.take n) ∧ Consistent h st := by
  cases hr with
  | notCommitted hle => exact ⟨acked, Nat.le_refl _, Nat.le_succ _, hle, rfl, tracker_consistent h _⟩
  | committed hlt => exact ⟨acked + 1, Nat.le_succ _, Nat.le_refl _, hlt, rfl, tracker_consistent h _⟩

/-! ## Calls whose context ends while they run (`withWriteTx(ctx, …)`, `database/sql`'s watcher)

"Acknowledged" = the call returned nil.  A call is acknowledged exactly when its transaction was committed,
whatever the point at which its context ended, and a call that returned an error (its own or the context's /
`ErrTxDone`) left nothing (`withWriteTx_cases`); the rest of the section follows from that. -/

/-- a call whose context stays alive is the plain `step` -/
theorem stepCtx_alive (h : String → Nat) (st : Store) (op : Op) :
    (stepCtx h st op .alive).1 = (step h st op).1 ∧
    ((stepCtx h st op .alive).2 = .ok ↔ (step h st op).2 = none) := by
  unfold stepCtx step withWriteTx
  cases body h st op <;> simp [beginFails, commits]

theorem withWriteTx_cases (c : CtxEnd) (st : Store) (b : Except Err Store) :
    (∃ st', b = .ok st' ∧ c = .alive ∧ withWriteTx c st b = (st', .ok)) ∨
    ((withWriteTx c st b).1 = st ∧ (withWriteTx c st b).2 ≠ .ok) := by
  cases c with
  | alive =>
    cases b with
    | ok st' => exact .inl ⟨st', rfl, rfl, rfl⟩
    | error e => exact .inr ⟨rfl, Res.noConfusion⟩
  | inBody early => cases early <;> cases b <;> exact .inr ⟨rfl, Res.noConfusion⟩
  | _ => cases b <;> exact .inr ⟨rfl, Res.noConfusion⟩

/-- an acknowledged call is committed: the store is the result of its whole body -/
theorem acked_applied (h : String → Nat) (st : Store) (op : Op) (c : CtxEnd)
    (hok : (stepCtx h st op c).2 = .ok) : body h st op = .ok (stepCtx h st op c).1 := by
  rcases withWriteTx_cases c st (body h st op) with ⟨st', hb, _, hw⟩ | ⟨_, hne⟩
  · rw [stepCtx, hw, hb]
  · exact absurd hok hne

/-- a call that was not acknowledged (own error, context error, `ErrTxDone`) left nothing -/
theorem unacked_unchanged (h : String → Nat) (st : Store) (op : Op) (c : CtxEnd)
    (hne : (stepCtx h st op c).2 ≠ .ok) : (stepCtx h st op c).1 = st := by
  rcases withWriteTx_cases c st (body h st op) with ⟨st', _, _, hw⟩ | ⟨hst, _⟩
  · exact absurd (congrArg Prod.snd hw) hne
  · exact hst

/-- a context that ends anywhere before Commit has taken over is never acknowledged -/
theorem ctx_ended_not_acked (h : String → Nat) (st : Store) (op : Op) (c : CtxEnd) (hc : c ≠ .alive) :
    (stepCtx h st op c).2 ≠ .ok := by
  rcases withWriteTx_cases c st (body h st op) with ⟨_, _, halive, _⟩ | ⟨_, hne⟩
  · exact absurd halive hc
  · exact hne

/-- C23: whatever the contexts do, the store shows exactly the
acknowledged calls — every one of them, and nothing of the others. -/
theorem ctx_history_is_acked_history (h : String → Nat) (cops : List (Op × CtxEnd)) (st : Store) :
    runCtx h st cops = run h st (ackedOps h st cops) := by
  fun_induction ackedOps h st cops
  case case1 => rfl
  case case2 st op c rest r hok ih =>
    show runCtx h (stepCtx h st op c).1 rest = run h (step h st op).1 _
    rw [ih, step, acked_applied h st op c hok]
  case case3 st op c rest r hne ih =>
    show runCtx h (stepCtx h st op c).1 rest = _
    rw [ih, unacked_unchanged h st op c hne]

theorem tracker_consistent_ctx (h : String → Nat) (cops : List (Op × CtxEnd)) :
    Consistent h (runCtx h Store.empty cops) := by
  rw [ctx_history_is_acked_history]; exact tracker_consistent h _

theorem ackedOps_mono (h : String → Nat) {l₁ l₂ : List (Op × CtxEnd)} (hp : l₁ <+: l₂) (st : Store) :
    ackedOps h st l₁ <+: ackedOps h st l₂ := by
  obtain ⟨t, rfl⟩ := hp
  induction l₁ generalizing st with
  | nil => exact List.nil_prefix
  | cons oc rest ih =>
    simp only [List.cons_append, ackedOps]
    split
    · exact (List.prefix_cons_inj _).2 (ih _)
    · exact ih _

/-- crash semantics with contexts: `returned` calls have returned (acknowledged or not); the call in flight
is committed entirely or not at all (and, by `ctx_ended_not_acked`, not at all if its context ended) -/
inductive RecoveredCtx (h : String → Nat) (cops : List (Op × CtxEnd)) (returned : Nat) : Store → Prop
  | notCommitted : returned ≤ cops.length → RecoveredCtx h cops returned (runCtx h Store.empty (cops.take returned))
  | committed : returned < cops.length → RecoveredCtx h cops returned (runCtx h Store.empty (cops.take (returned + 1)))

/-- C23: after a kill at any moment of a history whose calls carry contexts that end
anywhere, the re-opened store is the store of the acknowledged calls among a prefix `n` of the issued ones,
`returned ≤ n ≤ returned + 1`; every call acknowledged before the kill is among them; it is consistent. -/
theorem tx_atomic_prefix_ctx (h : String → Nat) (cops : List (Op × CtxEnd)) (returned : Nat) (st : Store)
    (hr : RecoveredCtx h cops returned st) :
    ∃ n, returned ≤ n ∧ n ≤ returned + 1 ∧ n ≤ cops.length ∧
      st = run h Store.empty (ackedOps h Store.empty (cops.take n)) ∧
      ackedOps h Store.empty (cops.take returned) <+: ackedOps h Store.empty (cops.take n) ∧
      Consistent h st := by
  have pre : ∀ n, returned ≤ n →
      ackedOps h Store.empty (cops.take returned) <+: ackedOps h Store.empty (cops.take n) :=
    fun n hn => ackedOps_mono h (List.take_prefix_take_left hn) _
  cases hr with
  | notCommitted hle =>
    exact ⟨returned, Nat.le_refl _, Nat.le_succ _, hle, ctx_history_is_acked_history h _ _, pre _ (Nat.le_refl _),
      tracker_consistent_ctx h _⟩
  | committed hlt =>
    exact ⟨returned + 1, Nat.le_succ _, Nat.le_refl _, hlt, ctx_history_is_acked_history h _ _, pre _ (Nat.le_succ _),
      tracker_consistent_ctx h _⟩

/-! ## Torn log tails

`Recovered` above is derived from what is on disk: the log of the killed process holds the commit mark of every
acknowledged call (COMMIT returns only after the commit frame is written) and at most that of the call in
flight; behind them there may be whole frames without commit mark and a partly written frame.  Re-opening
(`reopenLog`: the constructor leaves the log alone) shows the same store whatever that tail is. -/

/-- C23: frames without commit mark and a partly written frame behind the committed part
of the log change nothing of what re-opening shows. -/
theorem torn_tail_ignored (h : String → Nat) (ops : List Op) (frames pend : List Frame) (torn torn' : Nat)
    (hp : ∀ f ∈ pend, f.commit = false) :
    reopened h ops ⟨frames ++ pend, torn⟩ = reopened h ops ⟨frames, torn'⟩ := by
  have : pend.filter (·.commit) = [] := by
    apply List.filter_eq_nil_iff.mpr
    intro f hf
    simp [hp f hf]
  simp [reopened, reopenLog, replayed, List.filter_append, this]

/-- C23: if the log holds the commit marks of all `acked` acknowledged calls and at most
one more (the call in flight), the re-opened store satisfies `Recovered`, whatever lies behind the last commit
mark (whole frames or a torn one). -/
theorem reopened_is_recovered (h : String → Nat) (ops : List Op) (acked : Nat) (l : Log)
    (hlo : acked ≤ replayed l) (hhi : replayed l ≤ acked + 1) (hlen : replayed l ≤ ops.length) :
    Recovered h ops acked (reopened h ops l) := by
  unfold reopened reopenLog
  rcases Nat.eq_or_lt_of_le hlo with he | hlt
  · rw [← he]; exact .notCommitted (he ▸ hlen)
  · have h1 : replayed l = acked + 1 := Nat.le_antisymm hhi hlt
    rw [h1]; exact .committed (Nat.lt_of_lt_of_le hlt hlen)

/-- C23: the two together with `tx_atomic_prefix` - a log with a torn tail re-opens to a
consistent store of a prefix `n` of the issued calls, `acked ≤ n ≤ acked + 1`. -/
theorem torn_log_prefix (h : String → Nat) (ops : List Op) (acked : Nat) (frames pend : List Frame) (torn : Nat)
    (hp : ∀ f ∈ pend, f.commit = false)
    (hlo : acked ≤ replayed ⟨frames, 0⟩) (hhi : replayed ⟨frames, 0⟩ ≤ acked + 1)
    (hlen : replayed ⟨frames, 0⟩ ≤ ops.length) :
    ∃ n, acked ≤ n ∧ n ≤ acked + 1 ∧ n ≤ ops.length ∧
      reopened h ops ⟨frames ++ pend, torn⟩ = run h Store.empty (ops.take n) ∧
      Consistent h (reopened h ops ⟨frames ++ pend, torn⟩) := by
  rw [torn_tail_ignored h ops frames pend torn 0 hp]
  exact tx_atomic_prefix h ops acked _ (reopened_is_recovered h ops acked ⟨frames, 0⟩ hlo hhi hlen)

/-! ### non-vacuity -/
def hx (s : String) : Nat := s.length
def demo : List Op :=
  [.put "a" "x", .pappend "a" "c", .imp [("b", some ⟨none, ["c1"], 7⟩)], .premove "a" "c", .release "b" 7]
example : (run hx Store.empty demo).tracker "a" = some (1, Flags.S) := by decide +kernel
example : (run hx Store.empty demo).tracker "b" = some (1, Flags.P) := by decide +kernel
example : (run hx Store.empty demo).pfx "b" = ["c1"] ∧ (run hx Store.empty demo).lease "b" = none := by decide +kernel
example : (step hx (run hx Store.empty demo) (.release "b" 9)).2 = some .leaseExpired := by decide +kernel
example : (step (fun _ => 0) (run hx Store.empty demo) (.put "a" "y")).2 = some .hashFnChanged := by decide +kernel
example : Recovered hx demo 2 (run hx Store.empty (demo.take 3)) := .committed (by decide)
/-- a history in which contexts end before Begin, in the body, and at Commit (both watcher states) -/
def demoCtx : List (Op × CtxEnd) :=
  [(.put "a" "x", .alive), (.put "b" "y", .atCommit true), (.pappend "a" "c", .atCommit false),
   (.pappend "a" "d", .alive), (.delete "a", .inBody false), (.release "a" 3, .inBody false),
   (.put "c" "z", .beforeBegin), (.pappend "a" "d", .alive)]
example : ackedOps hx Store.empty demoCtx = [.put "a" "x", .pappend "a" "d"] := by decide +kernel
example : (stepCtx hx Store.empty (.put "b" "y") (.atCommit true)).2 = .ctxErr := by decide +kernel
example : (stepCtx hx (runCtx hx Store.empty (demoCtx.take 5)) (.release "a" 3) (.inBody false)).2 = .err .leaseExpired := by decide +kernel
example : (runCtx hx Store.empty demoCtx).simple "b" = none ∧ (runCtx hx Store.empty demoCtx).tracker "b" = none ∧
    (runCtx hx Store.empty demoCtx).tracker "a" = some (1, ⟨true, true, false⟩) := by decide +kernel
example : RecoveredCtx hx demoCtx 3 (runCtx hx Store.empty (demoCtx.take 4)) := .committed (by decide)

/-- a torn tail: two acknowledged puts (two frames each), the third call in flight has logged one whole frame
and 24 bytes (the frame header) of its second when the kill comes -/
example : reopened hx demo ⟨[⟨false⟩, ⟨true⟩, ⟨false⟩, ⟨true⟩] ++ [⟨false⟩], 24⟩ = run hx Store.empty (demo.take 2) :=
  torn_tail_ignored hx demo _ [⟨false⟩] 24 0 (by decide) |>.trans rfl
example : Recovered hx demo 2 (reopened hx demo ⟨[⟨false⟩, ⟨true⟩, ⟨false⟩, ⟨true⟩], 0⟩) :=
  reopened_is_recovered hx demo 2 _ (by decide) (by decide) (by decide)

end Specter.C23
