import SpecterModel.C21.Model
/-!
# C21 — A clean restart of the append-only log store reproduces its data

All theorems are about `Specter.Aof` (Model.lean), for arbitrary mutation histories (unknown types and
rejected mutations included) and any number of clean stop/reopen cycles at arbitrary positions.
-/
namespace Specter.Aof

/-- the numeric MutationType tags, for `simp [tags]` -/
theorem tags : tPut = 1 ∧ tDelete = 3 ∧ tAppend = 5 ∧ tRemove = 7 ∧ tImport = 20 ∧ tRemoveKeys = 21 :=
  ⟨rfl, rfl, rfl, rfl, rfl, rfl⟩

/-- decoding into a fresh (`Reset`) message yields exactly the logged message -/
theorem unmarshalInto_fresh (w : Mutation) : unmarshalInto {} w = w := by
  cases w; simp +contextual [unmarshalInto]

theorem handle_put (m : Mem) (mu : Mutation) (h : mu.type = tPut) :
    handle m mu = .ok (m.set mu.key { m.get mu.key with val := mu.value }) := by simp [handle, h]
theorem handle_delete (m : Mem) (mu : Mutation) (h : mu.type = tDelete) :
    handle m mu = .ok (m.set mu.key { m.get mu.key with val := [] }) := by simp [handle, h, tags]
theorem handle_append (m : Mem) (mu : Mutation) (h : mu.type = tAppend) :
    handle m mu = if mu.value ∈ (m.get mu.key).children then .error .conflict
      else .ok (m.set mu.key { m.get mu.key with children := (m.get mu.key).children ++ [mu.value] }) := by
  simp [handle, h, tags]
theorem handle_remove (m : Mem) (mu : Mutation) (h : mu.type = tRemove) :
    handle m mu = .ok (m.set mu.key { m.get mu.key with children := (m.get mu.key).children.filter (· ≠ mu.value) }) := by
  simp [handle, h, tags]
theorem handle_import (m : Mem) (mu : Mutation) (h : mu.type = tImport) :
    handle m mu = importAll m mu.keys mu.values := by simp [handle, h, tags]
theorem handle_removeKeys (m : Mem) (mu : Mutation) (h : mu.type = tRemoveKeys) :
    handle m mu = .ok (mu.keys.foldl Mem.erase m) := by simp [handle, h, tags]
theorem handle_other (m : Mem) (mu : Mutation) (h1 : mu.type ≠ tPut) (h2 : mu.type ≠ tDelete) (h3 : mu.type ≠ tAppend)
    (h4 : mu.type ≠ tRemove) (h5 : mu.type ≠ tImport) (h6 : mu.type ≠ tRemoveKeys) : handle m mu = .ok m := by
  simp [handle, h1, h2, h3, h4, h5, h6]

theorem Mem.get_set (m : Mem) (k k' : Bytes) (e : Entry) :
    (m.set k e).get k' = if k' = k then e else m.get k' := by
  unfold Mem.get
  fun_cases Mem.set m k e
  case case1 hany =>
    -- the update keeps every key, so looking up `k'` commutes with it
    have hf : (fun p : Bytes × Entry => decide (p.1 = k')) ∘ (fun p => if p.1 = k then (k, e) else p)
        = fun p => decide (p.1 = k') := by
      funext p; by_cases hp : p.1 = k <;> simp [hp]
    rw [List.find?_map, hf]
    cases hfind : m.find? (fun p => decide (p.1 = k')) with
    | none =>
      obtain ⟨q, hq, hqk⟩ := List.any_eq_true.1 hany
      have : ¬ k' = k := fun h => List.find?_eq_none.1 hfind q hq (h ▸ hqk)
      simp [this]
    | some r =>
      have hr : r.1 = k' := by simpa using List.find?_some hfind
      by_cases h : k' = k <;> simp [hr, h]
  case case2 hany =>
    rw [List.find?_append]
    by_cases h : k' = k
    · subst h
      have : m.find? (fun p => decide (p.1 = k')) = none :=
        List.find?_eq_none.2 fun q hq hqk => hany (List.any_eq_true.2 ⟨q, hq, hqk⟩)
      simp [this]
    · simp [h, Ne.symm h]

theorem Mem.get_erase (m : Mem) (k k' : Bytes) :
    (m.erase k).get k' = if k' = k then {} else m.get k' := by
  unfold Mem.erase Mem.get
  by_cases h : k' = k
  · subst h
    have : (m.filter (fun p => decide (p.1 ≠ k'))).find? (fun p => decide (p.1 = k')) = none :=
      List.find?_eq_none.2 fun q hq => by simpa using (List.mem_filter.1 hq).2
    rw [this, if_pos rfl]
  · have hf : (fun a : Bytes × Entry => decide (decide (a.1 ≠ k) = true ∧ decide (a.1 = k') = true)) =
        fun a => decide (a.1 = k') := by
      funext a; by_cases ha : a.1 = k' <;> simp [ha, h]
    rw [List.find?_filter, hf, if_neg h]

theorem check_some_handle_error (m : Mem) (mu : Mutation) (e : Err) (h : check m mu = some e) :
    handle m mu = .error e := by
  revert h
  fun_cases check m mu
  · next hc =>
    rintro ⟨⟩
    rw [handle_append m mu hc.1, if_pos hc.2]
  · rintro ⟨⟩

theorem importAll_ok (m : Mem) (ks : List Bytes) (ts : List Transfer) (h : ks.length ≤ ts.length) :
    ∃ m', importAll m ks ts = .ok m' := by
  fun_induction importAll m ks ts
  case case1 m _ => exact ⟨m, rfl⟩
  case case2 => cases h
  case case3 ih => exact ih (Nat.le_of_succ_le_succ h)

/-- Behind `checkMutation` the rollback branch is dead for well-formed mutations: whatever passes the check
is applied successfully. -/
theorem rollback_unreachable (m : Mem) (mu : Mutation) (hwf : mu.WF) (h : check m mu = none) :
    ∃ m', handle m mu = .ok m' := by
  fun_cases handle m mu
  -- a conflicting append does not pass the check
  case case3 _ _ h3 hc => simp [check, h3, hc] at h
  -- callers of `Import` pass a transfer for every key
  case case6 _ _ _ _ h5 => exact importAll_ok m _ _ (hwf h5)
  -- every other case succeeds
  all_goals exact ⟨_, rfl⟩

/-- With and without the pre-check: it only moves the rejection in front of `appendLog`
(`check_some_handle_error`), the rollback restores the log and the index. -/
theorem submitG_eq (pre : Bool) (s : Store) (mu : Mutation) :
    submitG pre s mu = match handle s.mem mu with
      | .ok m' => ({ log := s.log ++ [mu], mem := m', counter := s.counter + 1 }, none)
      | .error e => (s, some e) := by
  fun_cases submitG pre s mu
  case case1 e hchk =>
    -- rejected by the pre-check
    cases pre
    · cases hchk
    · rw [check_some_handle_error _ _ _ hchk]
  case case2 _ s1 m' hh => rw [hh]
  case case3 _ s1 e hh =>
    -- logged, rejected, rolled back
    rw [hh]
    simp [s1]

/-- a rejected mutation leaves log, memory and index unchanged (with and without the pre-check) -/
theorem rejected_no_effect (pre : Bool) (s : Store) (mu : Mutation) (e : Err)
    (h : (submitG pre s mu).2 = some e) :
    (submitG pre s mu).1.log = s.log ∧ (submitG pre s mu).1.mem = s.mem ∧
      (submitG pre s mu).1.counter = s.counter := by
  revert h
  rw [submitG_eq]
  cases handle s.mem mu with
  | ok m' => intro h; cases h
  | error e' => intro _; exact ⟨rfl, rfl, rfl⟩

theorem submit_mem_spec (pre : Bool) (s : Store) (mu : Mutation) :
    (submitG pre s mu).1.mem = specStep s.mem mu := by
  rw [submitG_eq, specStep]
  cases handle s.mem mu <;> rfl

theorem runHist_eq_foldl (s : Store) (hist : List Mutation) :
    runHist s hist = hist.foldl (fun s mu => (submit s mu).1) s := by
  induction hist generalizing s with
  | nil => rfl
  | cons mu rest ih => exact ih _

theorem runHist_append (s : Store) (l1 l2 : List Mutation) :
    runHist s (l1 ++ l2) = runHist (runHist s l1) l2 := by
  simp only [runHist_eq_foldl, List.foldl_append]

/-- the live memory is the reference semantics of the history: accepted mutations apply in order,
rejected ones contribute nothing -/
theorem mem_is_spec (hist : List Mutation) :
    (runHist Store.init hist).mem = specState Mem.empty hist := by
  rw [runHist_eq_foldl]
  -- `Store.mem` commutes with one iteration, hence with the fold
  exact (List.foldl_hom Store.mem fun s mu => (submit_mem_spec true s mu).symm).symm

/-- `replayLogs` with `mut.Reset()` is a left fold of `handleMutation` that stops at the first error -/
theorem replayG_reset_cons (m : Mem) (w : Mutation) (rest : List Mutation) :
    replayG true {} m (w :: rest) =
      match handle m w with
      | .error e => .error e
      | .ok m' => replayG true {} m' rest := by
  simp only [replayG, unmarshalInto_fresh, if_true]
  cases handle m w <;> rfl

theorem replayG_reset_append (m : Mem) (l1 l2 : List Mutation) :
    replayG true {} m (l1 ++ l2) =
      match replayG true {} m l1 with
      | .error e => .error e
      | .ok m' => replayG true {} m' l2 := by
  induction l1 generalizing m with
  | nil => rfl
  | cons x xs ih =>
    rw [List.cons_append, replayG_reset_cons, replayG_reset_cons]
    cases handle m x with
    | error e => rfl
    | ok m' => exact ih m'

theorem replay_snoc {log : List Mutation} {m : Mem} (h : replay log = .ok m) (mu : Mutation) :
    replay (log ++ [mu]) = handle m mu := by
  unfold replay at h ⊢
  rw [replayG_reset_append, h]
  show replayG true {} m [mu] = _
  rw [replayG_reset_cons]
  cases handle m mu <;> rfl

theorem reopenLog_of_replay {log : List Mutation} {m : Mem} (h : replay log = .ok m) :
    reopenLog log = .ok { log := log, mem := m, counter := log.length + 1 } := by
  rw [reopenLog, h]

/-- The restart invariant: replaying the log reproduces the live memory, and the next WAL index is
`LastIndex + 1`. -/
def Inv (s : Store) : Prop := replay s.log = .ok s.mem ∧ s.counter = s.log.length + 1

theorem inv_init : Inv Store.init := ⟨rfl, rfl⟩

/-- One writer-loop iteration preserves the invariant — for every mutation (accepted, rejected by the
pre-check, rejected after logging and rolled back), with `checkMutation` in front of `appendLog` and without. -/
theorem submit_preserves_replay_inv (pre : Bool) (s : Store) (mu : Mutation) (h : Inv s) :
    Inv (submitG pre s mu).1 := by
  rw [submitG_eq]
  cases hh : handle s.mem mu with
  | error e => exact h
  | ok m' => exact ⟨(replay_snoc h.1 mu).trans hh, by simp [h.2]⟩

/-- C21 invariant on every reachable state. -/
theorem replay_inv (hist : List Mutation) : Inv (runHist Store.init hist) := by
  rw [runHist_eq_foldl]
  exact List.foldlRecOn hist _ inv_init fun s h mu _ => submit_preserves_replay_inv true s mu h

theorem counter_inv (hist : List Mutation) :
    (runHist Store.init hist).counter = (runHist Store.init hist).log.length + 1 := (replay_inv hist).2

theorem reopen_of_inv (s : Store) (h : Inv s) : s.reopen = .ok s := by
  rw [Store.reopen, reopenLog_of_replay h.1, ← h.2]

/-- **C21.** After any history and a clean stop, `aof.New` succeeds and yields exactly the same store:
same simple values, prefix children and lease tokens for every key, same log, same next index. -/
theorem clean_restart_reproduces (hist : List Mutation) :
    (runHist Store.init hist).reopen = .ok (runHist Store.init hist) :=
  reopen_of_inv _ (replay_inv hist)

theorem reopen_idempotent (s s' : Store) (h : s.reopen = .ok s') : s'.reopen = .ok s' := by
  unfold Store.reopen at h
  revert h
  fun_cases reopenLog s.log
  · next m hr =>
    rintro ⟨⟩
    exact reopen_of_inv _ ⟨hr, rfl⟩
  · rintro ⟨⟩

/-- histories with clean stop/reopen cycles at arbitrary positions -/
inductive Op where
  | submit (mu : Mutation)
  | restart

def runOps (s : Store) : List Op → Except Err Store
  | [] => .ok s
  | .submit mu :: rest => runOps (submit s mu).1 rest
  | .restart :: rest =>
    match s.reopen with
    | .ok s' => runOps s' rest
    | .error e => .error e

def eraseRestarts : List Op → List Mutation
  | [] => []
  | .submit mu :: rest => mu :: eraseRestarts rest
  | .restart :: rest => eraseRestarts rest

/-- **C21, several cycles.** Restarts are invisible: a history with any number of clean stop/reopen
cycles never fails to reopen and ends in the same store as the history without them. -/
theorem restart_cycles_transparent (ops : List Op) :
    runOps Store.init ops = .ok (runHist Store.init (eraseRestarts ops)) := by
  suffices h : ∀ s, Inv s → runOps s ops = .ok (runHist s (eraseRestarts ops)) from h _ inv_init
  induction ops with
  | nil => intro s _; rfl
  | cons op rest ih =>
    intro s h
    cases op with
    | submit mu => exact ih _ (submit_preserves_replay_inv true s mu h)
    | restart =>
      simp only [runOps, eraseRestarts, reopen_of_inv s h]
      exact ih s h

/-! ### Lease calls between the mutations (volatile by design, never logged)

`Acquire` / `Renew` / `Release` change the lease column of the live memory only, so the strong invariant
`Inv` (replay = live memory) is replaced by `InvV`: replaying the log reproduces the live memory *up to
the lease column*. This survives every mutation because no logged mutation reads a lease
(`handle_dataEq`). -/

/-- what the property statement observes of an entry: simple value and prefix children -/
def Entry.data (e : Entry) : Bytes × List Bytes := (e.val, e.children)

/-- two memories with the same simple values and prefix children for every key -/
def DataEq (a b : Mem) : Prop := ∀ k, (a.get k).data = (b.get k).data

theorem DataEq.refl (a : Mem) : DataEq a a := fun _ => rfl
theorem DataEq.symm {a b : Mem} (h : DataEq a b) : DataEq b a := fun k => (h k).symm
theorem DataEq.trans {a b c : Mem} (h : DataEq a b) (h' : DataEq b c) : DataEq a c :=
  fun k => (h k).trans (h' k)

theorem DataEq.val {a b : Mem} (h : DataEq a b) (k : Bytes) : (a.get k).val = (b.get k).val :=
  congrArg Prod.fst (h k)
theorem DataEq.children {a b : Mem} (h : DataEq a b) (k : Bytes) : (a.get k).children = (b.get k).children :=
  congrArg Prod.snd (h k)

theorem DataEq.set {a b : Mem} (h : DataEq a b) {k : Bytes} {e e' : Entry} (he : e.data = e'.data) :
    DataEq (a.set k e) (b.set k e') := by
  intro k'
  rw [Mem.get_set, Mem.get_set]
  split
  · exact he
  · exact h k'

theorem DataEq.erase {a b : Mem} (h : DataEq a b) (k : Bytes) : DataEq (a.erase k) (b.erase k) := by
  intro k'
  rw [Mem.get_erase, Mem.get_erase]
  split
  · rfl
  · exact h k'

theorem DataEq.eraseAll {a b : Mem} (h : DataEq a b) (ks : List Bytes) :
    DataEq (ks.foldl Mem.erase a) (ks.foldl Mem.erase b) := by
  induction ks generalizing a b with
  | nil => exact h
  | cons k ks ih => exact ih (h.erase k)

theorem DataEq.importOne {a b : Mem} (h : DataEq a b) (k : Bytes) (t : Transfer) :
    DataEq (importOne a k t) (importOne b k t) := by
  unfold Specter.Aof.importOne
  apply h.set
  simp [Entry.data, h.children k]

/-- outcome of a mutation on two memories: same error, or data-equal results -/
def ResEq : Except Err Mem → Except Err Mem → Prop
  | .ok a, .ok b => DataEq a b
  | .error e, .error e' => e = e'
  | _, _ => False

theorem importAll_dataEq {a b : Mem} (h : DataEq a b) (ks : List Bytes) (ts : List Transfer) :
    ResEq (importAll a ks ts) (importAll b ks ts) := by
  fun_induction importAll a ks ts generalizing b
  case case1 => exact h
  case case2 => exact rfl
  case case3 k _ t _ ih => exact ih (h.importOne k t)

/-- **No logged mutation reads the lease column**: on memories that agree on values and children
(whatever their leases are) `handleMutation` fails with the same error or produces memories that
again agree on values and children. In particular `RemoveKeys` drops an entry whatever its lease is. -/
theorem handle_dataEq {a b : Mem} (h : DataEq a b) (mu : Mutation) : ResEq (handle a mu) (handle b mu) := by
  fun_cases handle a mu
  case case1 h1 =>
    rw [handle_put _ _ h1]
    exact h.set (by simp [Entry.data, h.children mu.key])
  case case2 _ h2 =>
    rw [handle_delete _ _ h2]
    exact h.set (by simp [Entry.data, h.children mu.key])
  -- append: the child exists
  case case3 _ _ h3 hc =>
    rw [handle_append _ _ h3, if_pos (h.children mu.key ▸ hc)]
    exact rfl
  -- append: a new child
  case case4 _ _ h3 hc =>
    rw [handle_append _ _ h3, if_neg (h.children mu.key ▸ hc)]
    exact h.set (by simp [Entry.data, h.val mu.key, h.children mu.key])
  case case5 _ _ _ h4 =>
    rw [handle_remove _ _ h4]
    exact h.set (by simp [Entry.data, h.val mu.key, h.children mu.key])
  case case6 _ _ _ _ h5 =>
    rw [handle_import _ _ h5]
    exact importAll_dataEq h _ _
  case case7 _ _ _ _ _ h6 =>
    rw [handle_removeKeys _ _ h6]
    exact h.eraseAll _
  case case8 h1 h2 h3 h4 h5 h6 =>
    rw [handle_other _ _ h1 h2 h3 h4 h5 h6]
    exact h

theorem check_dataEq {a b : Mem} (h : DataEq a b) (mu : Mutation) : check a mu = check b mu := by
  unfold check; rw [h.children mu.key]

/-- a lease call changes neither simple values nor prefix children -/
theorem volatile_preserves_data (m : Mem) (op : VOp) : DataEq (volatile m op).1 m := by
  have hset : ∀ k l, DataEq (m.set k { m.get k with lease := l }) m := by
    intro k l k'
    rw [Mem.get_set]
    split
    · next hk => rw [hk]; rfl
    · rfl
  fun_cases volatile m op
  -- granted (acquire 3, renew 8, release 9): one lease column rewritten
  case case3 | case8 | case9 => exact hset _ _
  -- refused: `m` itself
  all_goals exact .refl m

/-- The restart invariant in the presence of lease calls: replaying the log reproduces the live memory
up to the lease column, and the next WAL index is `LastIndex + 1`. -/
def InvV (s : Store) : Prop :=
  ∃ m, replay s.log = .ok m ∧ DataEq m s.mem ∧ s.counter = s.log.length + 1

theorem invV_of_inv (s : Store) (h : Inv s) : InvV s := ⟨s.mem, h.1, DataEq.refl _, h.2⟩

theorem submit_preserves_invV (pre : Bool) (s : Store) (mu : Mutation) (h : InvV s) :
    InvV (submitG pre s mu).1 := by
  obtain ⟨m, hr, hd, hc⟩ := h
  have hres := handle_dataEq hd mu
  rw [submitG_eq]
  cases hh : handle s.mem mu with
  | error e => exact ⟨m, hr, hd, hc⟩
  | ok m' =>
    cases hm : handle m mu with
    | error e => rw [hh, hm] at hres; exact hres.elim
    | ok m'' =>
      rw [hm, hh] at hres
      exact ⟨m'', (replay_snoc hr mu).trans hm, hres, by simp [hc]⟩

theorem volatile_preserves_invV (s : Store) (op : VOp) (h : InvV s) : InvV (s.volatile op).1 := by
  obtain ⟨m, hr, hd, hc⟩ := h
  exact ⟨m, hr, hd.trans (volatile_preserves_data s.mem op).symm, hc⟩

/-- a clean restart from `InvV` reproduces the data and lands in the strong invariant again -/
theorem reopen_of_invV (s : Store) (h : InvV s) :
    ∃ s', s.reopen = .ok s' ∧ DataEq s'.mem s.mem ∧ s'.log = s.log ∧ Inv s' := by
  obtain ⟨m, hr, hd, _⟩ := h
  exact ⟨_, reopenLog_of_replay hr, hd, rfl, hr, rfl⟩

/-- histories of mutations, lease calls and clean stop/reopen cycles in any order; `Op` / `runOps` above stay
beside them because without lease calls a restart gives back the same store, here only `DataEq` memories -/
inductive Step where
  | mutate (mu : Mutation)
  | lease (op : VOp)
  | restart

def runSteps (s : Store) : List Step → Except Err Store
  | [] => .ok s
  | .mutate mu :: rest => runSteps (submit s mu).1 rest
  | .lease op :: rest => runSteps (s.volatile op).1 rest
  | .restart :: rest =>
    match s.reopen with
    | .ok s' => runSteps s' rest
    | .error e => .error e

theorem runSteps_invV (steps : List Step) (s : Store) (h : InvV s) :
    ∃ s', runSteps s steps = .ok s' ∧ InvV s' := by
  induction steps generalizing s with
  | nil => exact ⟨s, rfl, h⟩
  | cons st rest ih =>
    cases st with
    | mutate mu => exact ih _ (submit_preserves_invV true s mu h)
    | lease op => exact ih _ (volatile_preserves_invV s op h)
    | restart =>
      obtain ⟨s', hs', _, _, hinv⟩ := reopen_of_invV s h
      simp only [runSteps, hs']
      exact ih s' (invV_of_inv s' hinv)

/-- **C21 with volatile leases.** After ANY history of mutations, lease calls (Acquire/Renew/Release, never
logged) and earlier clean restarts, every restart succeeds, and a further clean stop + `aof.New` yields
exactly the same simple values and prefix children for every key as before the stop. -/
theorem clean_restart_reproduces_data_with_leases (steps : List Step) :
    ∃ s s', runSteps Store.init steps = .ok s ∧ s.reopen = .ok s' ∧ DataEq s'.mem s.mem := by
  obtain ⟨s, hs, hinv⟩ := runSteps_invV steps Store.init (invV_of_inv _ inv_init)
  obtain ⟨s', hs', hd, _, _⟩ := reopen_of_invV s hinv
  exact ⟨s, s', hs, hs', hd⟩

/-! ### The regression `mut.Reset()` protects against -/

def valAt (r : Except Err Mem) (k : Bytes) : Option Bytes :=
  match r with
  | .ok m => some (m.get k).val
  | .error _ => none

def reuseWitness : List Mutation :=
  [{ type := tPut, key := [1], value := [9] }, { type := tPut, key := [2], value := [] }]

/-- Replaying into a message that is not reset between entries does NOT reproduce the store: after
`Put(k1, v); Put(k2, empty)` the second entry has no `value` field on the wire, the stale `v` stays
in the decode buffer and `k2` comes back with `v`. -/
theorem replay_reusing_buffers_violates :
    valAt (replayG false {} Mem.empty (runHist Store.init reuseWitness).log) [2] = some [9] ∧
    valAt (.ok (runHist Store.init reuseWitness).mem) [2] = some [] := by
  decide +kernel

/-! ### Non-vacuity -/

def exHist : List Mutation :=
  [ { type := tAppend, key := [1], value := [7] },
    { type := tAppend, key := [1], value := [7] },            -- rejected: conflict
    { type := tPut, key := [2], value := [5, 6] },
    { type := tImport, keys := [[1], [3]], values := [{ value := [4], children := [[7], [8]], lease := 3 }, {}] },
    { type := tRemoveKeys, keys := [[2]] },
    { type := tRemove, key := [1], value := [7] } ]

example : (submit (submit Store.init exHist[0]).1 exHist[1]).2 = some .conflict := by decide +kernel
example : (runHist Store.init exHist).log.length = 5 := by decide +kernel
example : ((runHist Store.init exHist).mem.get [1]).children = [[8]] ∧ ((runHist Store.init exHist).mem.get [1]).val = [4]
    ∧ ((runHist Store.init exHist).mem.get [2]).val = [] := by decide +kernel
example : ∀ mu ∈ exHist, mu.WF := by decide +kernel
example : (runOps Store.init [.submit exHist[0], .restart, .submit exHist[1], .restart, .restart, .submit exHist[2]]).toOption.map
    (fun s => (s.log.length, s.counter)) = some (2, 3) := by decide +kernel

/-- non-vacuity for the lease theorems: a child appended and a value put, leases acquired on that key and on
another, `RemoveKeys` over the leased key, a third key put -/
def exSteps : List Step :=
  [ .mutate { type := tAppend, key := [1], value := [7] },
    .mutate { type := tPut, key := [1], value := [5] },
    .lease (.acquire [1] true),
    .lease (.acquire [2] true),
    .mutate { type := tRemoveKeys, keys := [[1]] },
    .mutate { type := tPut, key := [3], value := [6] } ]

example : (volatile (volatile Mem.empty (.acquire [1] true)).1 (.acquire [1] true)).2 = some .conflict := by decide +kernel
example : (volatile (volatile Mem.empty (.acquire [1] true)).1 (.renew [1] true none)).2 = none := by decide +kernel
example : (volatile (volatile Mem.empty (.acquire [1] true)).1 (.renew [1] true (some 3))).2 = some .expired := by decide +kernel
example : (volatile (volatile Mem.empty (.acquire [1] true)).1 (.release [1] (some 3))).2 = some .expired := by decide +kernel
example : (volatile Mem.empty (.acquire [1] false)).2 = some .invalidTTL := by decide +kernel
/-- the leased key is really dropped by RemoveKeys, the other lease is live before the stop and gone
after it: the strong invariant `Inv` does not hold here, `InvV` (and the property) does -/
example : (runSteps Store.init exSteps).toOption.map
      (fun s => ((s.mem.get [1]).children, (s.mem.get [1]).lease, (s.mem.get [2]).lease, (s.mem.get [3]).val))
    = some ([], 0, liveTok, [6]) := by decide +kernel
example : (runSteps Store.init (exSteps ++ [.restart])).toOption.map
      (fun s => ((s.mem.get [1]).children, (s.mem.get [1]).lease, (s.mem.get [2]).lease, (s.mem.get [3]).val))
    = some ([], 0, 0, [6]) := by decide +kernel

/-- Why `deleteAll` must not look at the lease: a `RemoveKeys` that keeps the children of an entry
holding a lease (clearing only its value) makes the outcome of a logged mutation depend on state the
log does not carry — live the children stay, on replay (no lease) they are dropped. -/
def eraseKeepLeased (m : Mem) (k : Bytes) : Mem :=
  if (m.get k).lease ≠ 0 then m.set k { m.get k with val := [] } else m.erase k

theorem removeKeys_reading_the_lease_violates :
    let live := eraseKeepLeased (volatile ((Mem.empty.set [1] { children := [[7]] })) (.acquire [1] true)).1 [1]
    let replayed := eraseKeepLeased (Mem.empty.set [1] { children := [[7]] }) [1]
    (live.get [1]).children = [[7]] ∧ (replayed.get [1]).children = [] := by
  decide +kernel

end Specter.Aof
