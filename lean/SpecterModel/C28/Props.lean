import SpecterModel.C28.Model
import SpecterModel.Lists
/-!
# C28 — Route lookups are classified and cached correctly

All theorems are over EVERY list of slot outcomes of length `numLookup > 0` (hence in particular the
whole 5^3 table for `NumRedundantLinks = 3`, see `table`; the harness counts 6^3, telling a local route from
a remote one, which here is one constructor `Slot.route`), every local address and every route payload.
The TTL constants are the *generated* ones (`Gen.C28`, regenerated from route_cache.go on each run).
-/
namespace Specter.C28
open Gen.C28

/-! ## the one-sided comparator under Go's insertion sort -/

theorem insertLeft_lessLocal (self : String) (rl : List Route) (x : Route) :
    insertLeft (lessLocal self) rl x = if !(x.addr == self) then x :: rl else rl ++ [x] := by
  fun_induction insertLeft (lessLocal self) rl x
  case case1 => split <;> rfl
  case case2 y ys x h ih =>          -- `x` is local: moves past `y`
    unfold lessLocal at h
    rw [ih]; simp [h]
  case case3 y ys x h =>             -- `x` is remote: stays
    unfold lessLocal at h
    simp [h]

/-- Closed form of the loader's sort: local routes (in REVERSED slot order — the comparator is not a
strict weak order) followed by the remote routes in slot order. C27 models the same sort by taking this
outcome as its definition (the fold `C27.order`, closed form `C27.order_eq`); the two agree. -/
theorem isort_lessLocal (self : String) (xs : List Route) :
    isort (lessLocal self) xs
      = (xs.filter (fun r => r.addr == self)).reverse ++ xs.filter (fun r => !(r.addr == self)) := by
  have : insertLeft (lessLocal self) = fun acc x => if !(x.addr == self) then x :: acc else acc ++ [x] :=
    funext fun _ => funext fun _ => insertLeft_lessLocal ..
  rw [isort, this, foldl_front_back]; simp

def decoded (slots : List Slot) : List Route := slots.filterMap Slot.route?

theorem isError_not_isNotFound (s : Slot) (h : s.isError = true) : s.isNotFound = false := by
  cases s <;> simp_all [Slot.isError, Slot.isNotFound]

theorem route?_eq_none {s : Slot} (h : s.isNotFound = true ∨ s.isError = true) : s.route? = none := by
  cases s with
  | route r => rcases h with h | h <;> cases h
  | _ => rfl

theorem loader_eq {n : Nat} (self : String) {slots : List Slot} (hl : slots.length = n) :
    loader n self slots =
      if ∀ s ∈ slots, s.isNotFound = true then ⟨.notFound, routeNegativeTTL, 8⟩
      else if ∀ s ∈ slots, s.isError = true then ⟨.lookupFailed, routeFailedTTL, 16⟩
      else ⟨.routes (((decoded slots).filter (fun r => r.addr == self)).reverse
                      ++ (decoded slots).filter (fun r => !(r.addr == self))),
            routePositiveTTL, ((decoded slots).map Route.len).sum⟩ := by
  subst hl
  simp only [loader, beq_iff_eq, eq_comm (a := slots.length), List.countP_eq_length, isort_lessLocal, decoded]

/-- not-found ⇔ every slot is empty (or the not-exist sentinel, which is outside the table). -/
theorem notFound_iff (n : Nat) (self : String) (slots : List Slot) (hl : slots.length = n) :
    (loader n self slots).res = .notFound ↔ ∀ s ∈ slots, s.isNotFound = true := by
  rw [loader_eq self hl]
  by_cases h : ∀ s ∈ slots, s.isNotFound = true
  · rw [if_pos h]; exact iff_of_true rfl h
  · rw [if_neg h]; split <;> exact iff_of_false nofun h

/-- lookup-failed ⇔ every slot errored (Get error or undecodable value). -/
theorem lookupFailed_iff (n : Nat) (self : String) (slots : List Slot) (hl : slots.length = n) (hn : 0 < n) :
    (loader n self slots).res = .lookupFailed ↔ ∀ s ∈ slots, s.isError = true := by
  rw [loader_eq self hl]
  by_cases h2 : ∀ s ∈ slots, s.isError = true
  · -- the not-found test comes first; on a non-empty list it cannot hold together with all-errored
    have h1 : ¬ ∀ s ∈ slots, s.isNotFound = true := fun h1 => by
      obtain ⟨s, hs⟩ := List.exists_mem_of_length_pos (hl ▸ hn)
      have := isError_not_isNotFound s (h2 s hs)
      rw [h1 s hs] at this
      cases this
    rw [if_neg h1, if_pos h2]
    exact iff_of_true rfl h2
  · rw [if_neg h2]
    split <;> exact iff_of_false nofun h2

/-- Otherwise: a positive result whose routes are exactly the decoded ones, local first. -/
theorem otherwise_routes (n : Nat) (self : String) (slots : List Slot) (hl : slots.length = n)
    (hnf : ¬ ∀ s ∈ slots, s.isNotFound = true) (hne : ¬ ∀ s ∈ slots, s.isError = true) :
    (loader n self slots).res
        = .routes (((decoded slots).filter (fun r => r.addr == self)).reverse
                    ++ (decoded slots).filter (fun r => !(r.addr == self)))
      ∧ (loader n self slots).ttl = routePositiveTTL
      ∧ (loader n self slots).cost = ((decoded slots).map Route.len).sum := by
  rw [loader_eq self hl, if_neg hnf, if_neg hne]
  exact ⟨rfl, rfl, rfl⟩

/-- Shape of every positive result (the property's "otherwise" clause), stated without the closed form:
the routes are a permutation of the decoded ones, split as locals ++ remotes, remote slot order kept. -/
theorem routes_spec (n : Nat) (self : String) (slots : List Slot) (rs : List Route)
    (hl : slots.length = n) (h : (loader n self slots).res = .routes rs) :
    rs.Perm (decoded slots)
    ∧ (∃ l r, rs = l ++ r ∧ (∀ x ∈ l, x.addr = self) ∧ (∀ x ∈ r, x.addr ≠ self))
    ∧ rs.filter (fun x => !(x.addr == self)) = (decoded slots).filter (fun x => !(x.addr == self)) := by
  rw [loader_eq self hl] at h
  split at h
  · cases h
  split at h
  · cases h
  injection h with h
  subst h
  refine ⟨?_, ⟨_, _, rfl, ?_, ?_⟩, ?_⟩
  · have hp := List.filter_append_perm (fun r : Route => r.addr == self) (decoded slots)
    exact ((List.reverse_perm _).append_right _).trans hp
  · intro x hx; simpa using (List.mem_filter.mp (List.mem_reverse.mp hx)).2
  · intro x hx; simpa using (List.mem_filter.mp hx).2
  · simp [List.filter_append, List.filter_filter]

theorem local_before_remote (n : Nat) (self : String) (slots : List Slot) (rs : List Route)
    (hl : slots.length = n) (h : (loader n self slots).res = .routes rs)
    (i j : Nat) (hij : i < j) (hj : j < rs.length) (hloc : (rs[j]'hj).addr = self) :
    (rs[i]'(by omega)).addr = self := by
  obtain ⟨_, ⟨l, r, he, hL, hR⟩, _⟩ := routes_spec n self slots rs hl h
  subst he
  by_cases hi : i < l.length
  · rw [List.getElem_append_left hi]; exact hL _ (List.getElem_mem _)
  · exfalso
    have hj' : ¬ j < l.length := by omega
    rw [List.getElem_append_right (by omega)] at hloc
    exact hR _ (List.getElem_mem _) hloc

/-- Negative and failed results are cached for shorter times than positive ones (generated constants). -/
theorem ttl_order : routeNegativeTTL < routePositiveTTL ∧ routeFailedTTL < routePositiveTTL
    ∧ 0 < routeFailedTTL ∧ 0 < routeNegativeTTL := by decide

theorem ttl_classified (n : Nat) (self : String) (slots : List Slot) :
    match (loader n self slots).res with
    | .notFound => (loader n self slots).ttl = routeNegativeTTL
    | .lookupFailed => (loader n self slots).ttl = routeFailedTTL
    | .routes _ => (loader n self slots).ttl = routePositiveTTL := by
  fun_cases loader n self slots <;> rfl

theorem nonpositive_shorter (n : Nat) (self : String) (slots : List Slot)
    (h : ∀ rs, (loader n self slots).res ≠ .routes rs) :
    (loader n self slots).ttl < routePositiveTTL := by
  have := ttl_classified n self slots
  have o := ttl_order
  split at this
  · rw [this]; exact o.1
  · rw [this]; exact o.2.1
  · rename_i rs hrs; exact absurd hrs (h rs)

/-- Noteworthy corner of the "otherwise" clause: slots that are a MIX of empty and errored (no route at
all) give an empty *positive* result, cached for the long TTL. -/
theorem mixed_empty_error_is_positive_empty (n : Nat) (self : String) (slots : List Slot)
    (hl : slots.length = n)
    (hnone : ∀ s ∈ slots, s.isNotFound = true ∨ s.isError = true)
    (hnf : ¬ ∀ s ∈ slots, s.isNotFound = true) (hne : ¬ ∀ s ∈ slots, s.isError = true) :
    (loader n self slots).res = .routes [] ∧ (loader n self slots).ttl = routePositiveTTL := by
  have hd : decoded slots = [] := List.filterMap_eq_nil_iff.2 fun s hs => route?_eq_none (hnone s hs)
  have ⟨h, t, _⟩ := otherwise_routes n self slots hl hnf hne
  rw [hd] at h
  exact ⟨h, t⟩

/-! ## the finite table of the property (NumRedundantLinks = 3) -/

theorem numLinks_eq : numLinks = 3 := by decide

theorem table (self : String) (a b c : Slot) :
    let r := loader numLinks self [a, b, c]
    (r.res = .notFound ↔ (a.isNotFound ∧ b.isNotFound ∧ c.isNotFound))
    ∧ (r.res = .lookupFailed ↔ (a.isError ∧ b.isError ∧ c.isError))
    ∧ (∀ rs, r.res = .routes rs → r.ttl = routePositiveTTL ∧ rs.Perm (decoded [a, b, c])
          ∧ ∃ l rr, rs = l ++ rr ∧ (∀ x ∈ l, x.addr = self) ∧ (∀ x ∈ rr, x.addr ≠ self))
    ∧ ((∀ rs, r.res ≠ .routes rs) → r.ttl < routePositiveTTL) := by
  intro r
  have hl : [a, b, c].length = numLinks := numLinks_eq.symm
  refine ⟨?_, ?_, ?_, ?_⟩
  · rw [notFound_iff numLinks self _ hl]; simp
  · rw [lookupFailed_iff numLinks self _ hl (by decide)]; simp
  · intro rs h
    have t := ttl_classified numLinks self [a, b, c]
    have s := routes_spec numLinks self _ rs hl h
    rw [h] at t
    exact ⟨t, s.1, s.2.1⟩
  · exact nonpositive_shorter numLinks self _

/-! ## non-vacuity -/

private def rL : Route := ⟨1, "me", 10⟩
private def rR : Route := ⟨0, "other", 12⟩
private def rL2 : Route := ⟨2, "me", 11⟩

example : loader 3 "me" [.route rR, .route rL, .empty] = ⟨.routes [rL, rR], routePositiveTTL, 22⟩ := by decide +kernel
example : loader 3 "me" [.route rR, .route rL, .route rL2] = ⟨.routes [rL2, rL, rR], routePositiveTTL, 33⟩ := by decide +kernel
example : (loader 3 "me" [.empty, .empty, .empty]).res = .notFound := by decide +kernel
example : (loader 3 "me" [.error, .undecodable, .error]).res = .lookupFailed := by decide +kernel
example : (loader 3 "me" [.error, .empty, .error]) = ⟨.routes [], routePositiveTTL, 0⟩ := by decide +kernel
example : ¬ (∀ s ∈ [Slot.error, .empty], s.isNotFound = true) ∧ ¬ (∀ s ∈ [Slot.error, .empty], s.isError = true) := by decide +kernel
example : ∃ rs, (loader 3 "me" [.route rR, .route rL, .empty]).res = .routes rs ∧ rs.length = 2 :=
  ⟨[rL, rR], by decide +kernel, rfl⟩

end Specter.C28
