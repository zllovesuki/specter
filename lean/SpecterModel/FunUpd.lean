/-! The `upd` of a small-step model (`C13.upd`, `C18.upd`: `fun j => if j = i then x else f j`) unfolds to this `if` by
`rfl`, so the lemmas apply to hypotheses `upd f i x j = y` about either of them as they stand. -/
namespace Specter
variable {α : Type} {f : Nat → α} {i j : Nat} {x y : α}

theorem of_upd (h : (if j = i then x else f j) = y) : j = i ∧ x = y ∨ j ≠ i ∧ f j = y := by
  split at h
  · exact .inl ⟨‹_›, h⟩
  · exact .inr ⟨‹_›, h⟩

theorem of_upd_ne (h : (if j = i then x else f j) = y) (hx : x ≠ y) : f j = y :=
  ((of_upd h).resolve_left fun e => hx e.2).2

end Specter
