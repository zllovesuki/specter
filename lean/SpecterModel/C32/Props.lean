import SpecterModel.C32.Model
import SpecterModel.C31.Props
import SpecterModel.Guard
/-!
# C32 — Client certificates carry a stable identity that only the key holder can renew

Subjects built by `MakeSubjectV1` / `MakeSubjectV2` parse back to their identity, separators inside a legacy token included
(`extract_makeV1`, `extract_makeV2`; over all issued subjects `issued_spec`); the v2 token determines id and key hash
(`token_injective`); `renew_iff` is the exact success condition of `RenewCertificate`; of the `ClientCA` chain only element 0
is a trust anchor (`renewChain_cons_some`, `renewChain_iff`).  (`ExtractCertificateIdentity` has a second model, on `List Char`
and without the id, in `C25/Model.lean`: what the tunnel server's RPC gate sees of it.)
-/
namespace Specter.C32
open Specter.C31 (Bytes dec parseNat join colon parseNat_dec dec_injective colon_not_digit)

theorem cut_append (sep : Nat) (p rest : Bytes) (h : sep ∉ p) : cut sep (p ++ sep :: rest) = (p, some rest) := by
  induction p with
  | nil => simp [cut]
  | cons c cs ih =>
    have hc : c ≠ sep := fun e => h (by simp [e])
    have hcs : sep ∉ cs := fun m => h (by simp [m])
    simp [cut, hc, ih hcs]

theorem splitN3_join (a b c : Bytes) (ha : colon ∉ a) (hb : colon ∉ b) : splitN3 (join colon [a, b, c]) = [a, b, c] := by
  simp only [join, splitN3]
  rw [cut_append colon a _ ha]; simp only
  rw [cut_append colon b _ hb]

theorem v2_nocolon : colon ∉ v2 := by decide
theorem v1_nocolon : colon ∉ v1 := by decide

theorem parseUint64_dec (id : Nat) (h : id < 2^64) : parseUint64 (dec id) = some id := by
  simp [parseUint64, parseNat_dec, h]

/-- Every subject made by `MakeSubjectV2` (id a uint64) is parsed back: token = the whole subject, same id, version 2. -/
theorem extract_makeV2 (b64 : Bytes → Bytes) (id : Nat) (hid : id < 2^64) (hash : Bytes) :
    extract (makeSubjectV2 b64 id hash) =
      .ok { token := makeSubjectV2 b64 id hash, id := id, version := .v2 } := by
  unfold extract
  rw [show splitN3 (makeSubjectV2 b64 id hash) = [v2, dec id, b64 hash] from
    splitN3_join _ _ _ v2_nocolon (colon_not_digit id)]
  have h12 : v2 ≠ v1 := by decide
  simp [parseUint64_dec id hid, h12]

/-- the `util.Must` panic is unreachable for CA-issued (MakeSubjectV2) subjects -/
theorem issued_subject_parses (b64 : Bytes → Bytes) (id : Nat) (hid : id < 2^64) (hash : Bytes) :
    extract (makeSubjectV2 b64 id hash) ≠ .panic := by
  rw [extract_makeV2 b64 id hid hash]; intro h; cases h

/-- Every subject made by `MakeSubjectV1` (id a uint64, ANY legacy token — it may itself contain the separator) is parsed
back to exactly that token, that id, version 1: only the first two separators delimit fields. -/
theorem extract_makeV1 (id : Nat) (hid : id < 2^64) (tok : Bytes) :
    extract (makeSubjectV1 id tok) = .ok { token := tok, id := id, version := .v1 } := by
  unfold extract
  rw [show splitN3 (makeSubjectV1 id tok) = [v1, dec id, tok] from
    splitN3_join _ _ _ v1_nocolon (colon_not_digit id)]
  simp [parseUint64_dec id hid]

/-- the subjects the statement quantifies over: built by `MakeSubjectV1` / `MakeSubjectV2` with a uint64 id -/
inductive Issued (b64 : Bytes → Bytes) : Bytes → Prop
  | v1 (id : Nat) (hid : id < 2^64) (tok : Bytes) : Issued b64 (makeSubjectV1 id tok)
  | v2 (id : Nat) (hid : id < 2^64) (hash : Bytes) : Issued b64 (makeSubjectV2 b64 id hash)

theorem issued_spec (b64 : Bytes → Bytes) (s : Bytes) (h : Issued b64 s) :
    ∃ i, extract s = .ok i ∧ s = if i.version = .v1 then makeSubjectV1 i.id i.token else i.token := by
  cases h with
  | v1 id hid tok => exact ⟨_, extract_makeV1 id hid tok, rfl⟩
  | v2 id hid hash => exact ⟨_, extract_makeV2 b64 id hid hash, rfl⟩

/-- every issued subject yields an identity (no error, no panic) -/
theorem issued_extract_ok (b64 : Bytes → Bytes) (s : Bytes) (h : Issued b64 s) : ∃ i, extract s = .ok i :=
  (issued_spec b64 s h).imp fun _ hi => hi.1

/-- **The identity is unique to the subject**: two issued subjects (v1 or v2, any tokens — separators inside a legacy
token included) with the same extracted identity are the same subject. -/
theorem issued_identity_unique (b64 : Bytes → Bytes) (s s' : Bytes) (h : Issued b64 s) (h' : Issued b64 s')
    (e : extract s = extract s') : s = s' := by
  obtain ⟨i, hi, hs⟩ := issued_spec b64 s h
  obtain ⟨i', hi', hs'⟩ := issued_spec b64 s' h'
  rw [hi, hi'] at e
  cases e
  rw [hs, hs']

/-- the identity extracted from a v1 subject rebuilds exactly that subject: the v1 token is the WHOLE third field -/
theorem v1_token_roundtrip (id : Nat) (hid : id < 2^64) (tok : Bytes) (i : Identity)
    (h : extract (makeSubjectV1 id tok) = .ok i) : makeSubjectV1 i.id i.token = makeSubjectV1 id tok ∧ i.version = .v1 := by
  rw [extract_makeV1 id hid tok] at h; cases h; exact ⟨rfl, rfl⟩

/-- A v2 identity's token is the certificate subject itself: tokens coincide exactly when subjects do. -/
theorem v2_token_is_subject (cn : Bytes) (i : Identity) (h : extract cn = .ok i) (hv : i.version = .v2) : i.token = cn := by
  revert h
  fun_cases extract cn
  all_goals intro h; cases h
  · cases hv  -- v1
  · rfl  -- v2: the token is `cn`

/-- The token determines the id and the encoded key hash. -/
theorem token_injective (b64 : Bytes → Bytes) (id id' : Nat) (h h' : Bytes)
    (e : makeSubjectV2 b64 id h = makeSubjectV2 b64 id' h') : id = id' ∧ b64 h = b64 h' := by
  have s1 := splitN3_join v2 (dec id) (b64 h) v2_nocolon (colon_not_digit id)
  have s2 := splitN3_join v2 (dec id') (b64 h') v2_nocolon (colon_not_digit id')
  unfold makeSubjectV2 at e
  rw [e, s2] at s1
  simp at s1
  exact ⟨(dec_injective _ _ s1.1).symm, s1.2.symm⟩

/-- With an injective base64 the token is bound to the SHA-256 of the proof-of-work key. -/
theorem identity_bound_to_key (sha b64 : Bytes → Bytes) (hinj : ∀ x y, b64 x = b64 y → x = y) (id id' : Nat) (pub pub' : Bytes)
    (e : makeSubjectV2 b64 id (sha pub) = makeSubjectV2 b64 id' (sha pub')) : id = id' ∧ sha pub = sha pub' := by
  have := token_injective b64 id id' _ _ e
  exact ⟨this.1, hinj _ _ this.2⟩

/-- `RequestCertificate` issues only after a valid proof, for the proof's key, with the v2 subject derived from that key. -/
theorem request_identity (sha b64 : Bytes → Bytes) (powRes : C31.Res) (pub : Bytes) (id : Nat) (hid : id < 2^64) (c : Cert)
    (h : request sha b64 powRes pub id = .issued c) :
    powRes = .ok ∧ c.key = pub ∧ c.cn = makeSubjectV2 b64 id (sha pub) ∧
      extract c.cn = .ok { token := c.cn, id := id, version := .v2 } := by
  simp only [request, guard_eq_iff, ne_eq, reduceCtorEq, not_false_eq_true, Decidable.not_not, ReqRes.issued.injEq] at h
  obtain ⟨hp, rfl⟩ := h
  exact ⟨hp, rfl, rfl, extract_makeV2 b64 id hid (sha pub)⟩

/-- **Exact success condition of `RenewCertificate`.** -/
theorem renew_iff (derEmpty parseOK caVerified : Bool) (cn : Bytes) (powRes : C31.Res) (powKey : Bytes)
    (certKey : Option Bytes) (c : Cert) :
    renew derEmpty parseOK caVerified cn powRes powKey certKey = .ok c ↔
      derEmpty = false ∧ parseOK = true ∧ caVerified = true ∧ (∃ i, extract cn = .ok i ∧ i.version = .v2) ∧
      powRes = .ok ∧ certKey = some powKey ∧ c = { cn := cn, key := powKey } := by
  constructor
  · fun_cases renew derEmpty parseOK caVerified cn powRes powKey certKey
    all_goals intro h; cases h
    -- the `.ok` branch, with the passed guards
    · next hd hp hc i he hv hpow k hk =>
      simp only [Bool.not_eq_true, Bool.not_eq_true', Bool.not_eq_false, ne_eq, Decidable.not_not] at hd hp hc hpow hk
      have hv2 : i.version = .v2 := by
        cases hi : i.version
        · exact absurd hi hv
        · rfl
      exact ⟨hd, hp, hc, ⟨i, he, hv2⟩, hpow, hk ▸ rfl, rfl⟩
  · rintro ⟨rfl, rfl, rfl, ⟨i, he, hv⟩, rfl, rfl, rfl⟩
    simp [renew, he, hv]

/-- A renewed certificate keeps the exact subject, the key, and therefore the identity. -/
theorem renew_preserves_identity (derEmpty parseOK caVerified : Bool) (cn : Bytes) (powRes : C31.Res) (powKey : Bytes)
    (certKey : Option Bytes) (c : Cert) (h : renew derEmpty parseOK caVerified cn powRes powKey certKey = .ok c) :
    c.cn = cn ∧ certKey = some c.key ∧ extract c.cn = extract cn := by
  obtain ⟨_, _, _, _, _, hk, hc⟩ := (renew_iff _ _ _ _ _ _ _ _).mp h
  subst hc; exact ⟨rfl, hk, rfl⟩

theorem foreign_ca_rejected (cn : Bytes) (powRes : C31.Res) (powKey : Bytes) (certKey : Option Bytes) :
    renew false true false cn powRes powKey certKey = .error .notOurCA := rfl

theorem v1_rejected (cn : Bytes) (i : Identity) (he : extract cn = .ok i) (hv : i.version = .v1)
    (powRes : C31.Res) (powKey : Bytes) (certKey : Option Bytes) :
    renew false true true cn powRes powKey certKey = .error .v1 := by simp [renew, he, hv]

theorem bad_proof_rejected (cn : Bytes) (i : Identity) (he : extract cn = .ok i) (hv : i.version = .v2)
    (powRes : C31.Res) (hp : powRes ≠ .ok) (powKey : Bytes) (certKey : Option Bytes) :
    renew false true true cn powRes powKey certKey = .error (.pow powRes) := by simp [renew, he, hv, hp]

theorem key_mismatch_rejected (cn : Bytes) (i : Identity) (he : extract cn = .ok i) (hv : i.version = .v2)
    (powKey k : Bytes) (hk : powKey ≠ k) :
    renew false true true cn .ok powKey (some k) = .error .keyMismatch := by simp [renew, he, hv, hk]

/-! ## the trust pool: only `ClientCA.Certificate[0]` is a trust anchor -/

theorem liftRenew_ok (r : Except RenewErr Cert) (c : Cert) : liftRenew r = .ok c ↔ r = .ok c := by
  cases r <;> simp [liftRenew]

theorem renewChain_cons_some (derEmpty parseOK b : Bool) (t : List ChainElem) (cn : Bytes) (powRes : C31.Res)
    (powKey : Bytes) (certKey : Option Bytes) :
    renewChain derEmpty parseOK (some b :: t) cn powRes powKey certKey =
      liftRenew (renew derEmpty parseOK b cn powRes powKey certKey) := by
  -- both sides make the two DER checks first
  cases derEmpty <;> cases parseOK <;> rfl

/-- With a one-certificate `ClientCA` (the configuration of the repository's tests) `renewChain` is `renew`. -/
theorem renewChain_single (derEmpty parseOK b : Bool) (cn : Bytes) (powRes : C31.Res) (powKey : Bytes) (certKey : Option Bytes) :
    renewChain derEmpty parseOK [some b] cn powRes powKey certKey =
      liftRenew (renew derEmpty parseOK b cn powRes powKey certKey) :=
  renewChain_cons_some ..

/-- Whatever is bundled behind the client CA in `ClientCA.Certificate` (its issuer, the root, an unrelated certificate, garbage,
any number of them) has no influence on `RenewCertificate`. -/
theorem renewChain_tail_irrelevant (derEmpty parseOK : Bool) (e : ChainElem) (t t' : List ChainElem) (cn : Bytes)
    (powRes : C31.Res) (powKey : Bytes) (certKey : Option Bytes) :
    renewChain derEmpty parseOK (e :: t) cn powRes powKey certKey =
      renewChain derEmpty parseOK (e :: t') cn powRes powKey certKey := by
  cases e <;> rfl

/-- **Exact success condition over the whole `ClientCA` chain**: the presented certificate must verify with the FIRST chain
element (the client CA) as the only root; verifying under any later element does not help. -/
theorem renewChain_iff (derEmpty parseOK : Bool) (chain : List ChainElem) (cn : Bytes) (powRes : C31.Res) (powKey : Bytes)
    (certKey : Option Bytes) (c : Cert) :
    renewChain derEmpty parseOK chain cn powRes powKey certKey = .ok c ↔
      derEmpty = false ∧ parseOK = true ∧ chain.head? = some (some true) ∧ (∃ i, extract cn = .ok i ∧ i.version = .v2) ∧
      powRes = .ok ∧ certKey = some powKey ∧ c = { cn := cn, key := powKey } := by
  match chain with
  | some b :: _ => rw [renewChain_cons_some, liftRenew_ok, renew_iff]; simp only [List.head?_cons, Option.some.injEq]
  | [] | none :: _ => simp [renewChain, guard_eq_iff, trustVerdict]

/-- A certificate that does not verify under the client CA is refused with "not issued by this CA" — even when it verifies
under certificates bundled behind the client CA (`t` is arbitrary: it may contain `some true`). -/
theorem bundled_parent_rejected (t : List ChainElem) (cn : Bytes) (powRes : C31.Res) (powKey : Bytes) (certKey : Option Bytes) :
    renewChain false true (some false :: t) cn powRes powKey certKey = .error (.renew .notOurCA) := by
  rw [renewChain_cons_some]; rfl

/-- A renewed certificate keeps subject, key and identity, and the presented one was verified by the client CA itself. -/
theorem renewChain_preserves_identity (derEmpty parseOK : Bool) (chain : List ChainElem) (cn : Bytes) (powRes : C31.Res)
    (powKey : Bytes) (certKey : Option Bytes) (c : Cert)
    (h : renewChain derEmpty parseOK chain cn powRes powKey certKey = .ok c) :
    chain.head? = some (some true) ∧ c.cn = cn ∧ certKey = some c.key ∧ extract c.cn = extract cn := by
  obtain ⟨_, _, hh, _, _, hk, hc⟩ := (renewChain_iff _ _ _ _ _ _ _ _).mp h
  subst hc; exact ⟨hh, rfl, hk, rfl⟩

/-! ## non-vacuity -/
def b64I : Bytes → Bytes := fun x => x.map (· % 10 + 65)
def cnEx : Bytes := makeSubjectV2 b64I 42 [1, 2, 3]     -- "v2:42:BCD"
example : extract cnEx = .ok { token := cnEx, id := 42, version := .v2 } := extract_makeV2 b64I 42 (by omega) _
example : extract (makeSubjectV1 7 [120, 58, 121]) = .ok { token := [120, 58, 121], id := 7, version := .v1 } :=
  extract_makeV1 7 (by omega) _
-- "v1:7:x:y" and "v1:7:x:z": tokens share the prefix up to the separator, identities stay distinct
example : extract (makeSubjectV1 7 [120, 58, 121]) ≠ extract (makeSubjectV1 7 [120, 58, 122]) := by
  rw [extract_makeV1 7 (by omega), extract_makeV1 7 (by omega)]; decide
example : ∃ i, extract (makeSubjectV1 7 [58, 58]) = .ok i := issued_extract_ok b64I _ (.v1 7 (by omega) _)
example : makeSubjectV1 (⟨[120, 58, 121], 7, .v1⟩ : Identity).id [120, 58, 121] = makeSubjectV1 7 [120, 58, 121] :=
  (v1_token_roundtrip 7 (by omega) [120, 58, 121] ⟨[120, 58, 121], 7, .v1⟩ (extract_makeV1 7 (by omega) _)).1
example : extract [118, 50, 58, 120, 58, 121] = .panic := by decide +kernel
example : extract [118, 51, 58, 49, 58, 121] = .unknown := by decide +kernel
example : extract [118, 50, 58, 49] = .format := by decide +kernel
example : renew false true true cnEx .ok [9] (some [9]) = .ok { cn := cnEx, key := [9] } :=
  (renew_iff _ _ _ _ _ _ _ _).mpr ⟨rfl, rfl, rfl, ⟨_, extract_makeV2 b64I 42 (by omega) _, rfl⟩, rfl, rfl, rfl⟩
example : renew false true true cnEx .ok [9] (some [8]) = .error .keyMismatch :=
  key_mismatch_rejected _ _ (extract_makeV2 b64I 42 (by omega) _) rfl _ _ (by decide)
-- client CA is an intermediate, its root is bundled: issued by the client CA → renewed; issued by the bundled root → refused
example : renewChain false true [some true, some false] cnEx .ok [9] (some [9]) = .ok { cn := cnEx, key := [9] } :=
  (renewChain_iff _ _ _ _ _ _ _ _).mpr ⟨rfl, rfl, rfl, ⟨_, extract_makeV2 b64I 42 (by omega) _, rfl⟩, rfl, rfl, rfl⟩
example : renewChain false true [some false, some true] cnEx .ok [9] (some [9]) = .error (.renew .notOurCA) :=
  bundled_parent_rejected _ _ _ _ _
example : renewChain false true [some false, none, some true] cnEx .ok [9] (some [9]) =
    renewChain false true [some false] cnEx .ok [9] (some [9]) := renewChain_tail_irrelevant _ _ _ _ _ _ _ _ _
example : renewChain false true [] cnEx .ok [9] (some [9]) = .error .noChain := rfl
example : renewChain false true [none, some true] cnEx .ok [9] (some [9]) = .error .caUnparsable := rfl
example : request (fun x => x) b64I .ok [1, 2, 3] 42 = .issued { cn := cnEx, key := [1, 2, 3] } := rfl
example : makeSubjectV2 b64I 42 [1, 2, 3] ≠ makeSubjectV2 b64I 43 [1, 2, 3] := fun e => by
  have := (token_injective _ _ _ _ _ e).1; omega

end Specter.C32
