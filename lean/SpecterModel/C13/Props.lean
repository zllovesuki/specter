import SpecterModel.C13.Model
import SpecterModel.FunUpd
/-!
# C13 — Node lifecycle transitions are atomic and follow the lifecycle

Part 1 (packing, over the GENERATED expressions of `chord/node_state.go`): the word
`(index <<< 4) ||| state` is an injective encoding of `(index, state)` for `state < 16`, `index < 2^60`,
`Get`/the failure result decode the state, and the compare of the CAS on packed words is exactly the
compare on pairs `(index of the loaded word, expected state)`.

Part 2 (protocol, every schedule, any number of goroutines): small-step system
`load | casOk | casFail | store` with a ghost log of successful CASes.
-/
namespace Specter.C13
open Gen.C13

/-! ## Part 1: packing -/

def pack (i s : Nat) : BitVec 64 := BitVec.ofNat 64 (i * 16 + s)

theorem toNat_ofNat_of_lt {x : Nat} (h : x < 2^64) : (BitVec.ofNat 64 x).toNat = x := by
  rw [BitVec.toNat_ofNat, Nat.mod_eq_of_lt h]

theorem pack_toNat {i s : Nat} (hi : i < 2^60) (hs : s < 16) : (pack i s).toNat = i * 16 + s :=
  toNat_ofNat_of_lt (by omega)

theorem pack_shr {i s : Nat} (hi : i < 2^60) (hs : s < 16) : pack i s >>> 4 = BitVec.ofNat 64 i := by
  apply BitVec.eq_of_toNat_eq
  rw [BitVec.toNat_ushiftRight, pack_toNat hi hs, toNat_ofNat_of_lt (by omega), Nat.shiftRight_eq_div_pow]
  omega

theorem pack_and {i s : Nat} (hi : i < 2^60) (hs : s < 16) : pack i s &&& 15#64 = BitVec.ofNat 64 s := by
  apply BitVec.eq_of_toNat_eq
  rw [BitVec.toNat_and, pack_toNat hi hs, toNat_ofNat_of_lt (x := s) (by omega)]
  exact (Nat.and_two_pow_sub_one_eq_mod _ 4).trans (by omega)

theorem shl_or {i s : Nat} (hi : i < 2^60) (hs : s < 16) :
    BitVec.ofNat 64 i <<< 4 ||| BitVec.ofNat 64 s = pack i s := by
  apply BitVec.eq_of_toNat_eq
  rw [BitVec.toNat_or, BitVec.toNat_shiftLeft, pack_toNat hi hs, toNat_ofNat_of_lt (by omega), toNat_ofNat_of_lt (by omega),
    Nat.shiftLeft_eq, Nat.mod_eq_of_lt (by omega), Nat.mul_comm, ← Nat.two_pow_add_eq_or_of_lt hs]

/-- `Transition`'s `curr >> 4` -/
theorem currIndex_pack (i s : Nat) (e n : BitVec 64) (hi : i < 2^60) (hs : s < 16) :
    tr_currIndex (pack i s) e n = BitVec.ofNat 64 i := pack_shr hi hs

/-- `Get()` decodes the state field -/
theorem getState_pack (i s : Nat) (hi : i < 2^60) (hs : s < 16) : getState (pack i s) = BitVec.ofNat 64 s :=
  pack_and hi hs

/-- the state returned by a failed `Transition` is the state field of the loaded word -/
theorem failState_pack (i s : Nat) (e n : BitVec 64) (hi : i < 2^60) (hs : s < 16) :
    tr_failState (pack i s) e n = BitVec.ofNat 64 s := pack_and hi hs

/-- the CAS comparand: index of the loaded word, expected state -/
theorem prev_pack (i s e : Nat) (n : BitVec 64) (hi : i < 2^60) (hs : s < 16) (he : e < 16) :
    tr_prev (pack i s) (BitVec.ofNat 64 e) n = pack i e := by
  show pack i s >>> 4 <<< 4 ||| BitVec.ofNat 64 e = _
  rw [pack_shr hi hs, shl_or hi he]

/-- the CAS replacement: index + 1, next state; the history key is index + 1 -/
theorem next_pack (i s n : Nat) (e : BitVec 64) (hi : i + 1 < 2^60) (hs : s < 16) (hn : n < 16) :
    tr_next (pack i s) e (BitVec.ofNat 64 n) = pack (i + 1) n ∧
    tr_nextIndex (pack i s) e (BitVec.ofNat 64 n) = BitVec.ofNat 64 (i + 1) := by
  show (pack i s >>> 4 + 1#64) <<< 4 ||| BitVec.ofNat 64 n = _ ∧ pack i s >>> 4 + 1#64 = _
  rw [pack_shr (by omega) hs, ← BitVec.ofNat_add, shl_or hi hn]
  exact ⟨rfl, rfl⟩

theorem initWord_pack (s : Nat) (hs : s < 16) : initWord (BitVec.ofNat 64 s) = pack 0 s :=
  shl_or (by decide) hs

/-- C13: the packed word determines (index, state). -/
theorem pack_inj (i s i' s' : Nat) (hi : i < 2^60) (hi' : i' < 2^60) (hs : s < 16) (hs' : s' < 16) :
    pack i s = pack i' s' ↔ i = i' ∧ s = s' := by
  constructor
  · intro h
    have := congrArg BitVec.toNat h
    rw [pack_toNat hi hs, pack_toNat hi' hs'] at this
    omega
  · rintro ⟨rfl, rfl⟩; rfl

/-- C13: `unpack (pack idx st) = (idx, st)` with the code's own decoders. -/
theorem pack_unpack (i s : Nat) (e n : BitVec 64) (hi : i < 2^60) (hs : s < 16) :
    (tr_currIndex (pack i s) e n).toNat = i ∧ (getState (pack i s)).toNat = s := by
  rw [currIndex_pack i s e n hi hs, getState_pack i s hi hs]
  exact ⟨toNat_ofNat_of_lt (by omega), toNat_ofNat_of_lt (by omega)⟩

/-- C13: the compare of `CompareAndSwap(prev, next)` on packed words, where `prev` was
built from a word loaded earlier (`ci`, `cs`) and the expected state, succeeds exactly when the current
word still carries the loaded index and its state is the expected one. (The index makes ABA impossible.) -/
theorem cas_compare_iff (wi ws ci cs e : Nat) (n : BitVec 64)
    (hwi : wi < 2^60) (hci : ci < 2^60) (hws : ws < 16) (hcs : cs < 16) (he : e < 16) :
    pack wi ws = tr_prev (pack ci cs) (BitVec.ofNat 64 e) n ↔ wi = ci ∧ ws = e := by
  rw [prev_pack ci cs e n hci hcs he]; exact pack_inj wi ws ci e hwi hci hws he

/-- C13: the word-level sequential `Transition` assembled from the generated
expressions behaves as "compare state with exp; on success index+1, store history[index+1] = nxt". -/
theorem seq_transition_spec (i s exp nxt : Nat) (h : List (Nat × Nat))
    (hi : i + 1 < 2^60) (hs : s < 16) (he : exp < 16) (hn : nxt < 16) :
    Seq.transition ⟨pack i s, h⟩ exp nxt =
      if s = exp then (⟨pack (i + 1) nxt, histStore h (i + 1) nxt⟩, nxt, true)
      else (⟨pack i s, h⟩, s, false) := by
  have hi' : i < 2^60 := by omega
  simp only [Seq.transition, prev_pack i s exp _ hi' hs he, next_pack i s nxt _ hi hs hn, failState_pack i s _ _ hi' hs,
    pack_inj i s i exp hi' hi' hs he, toNat_ofNat_of_lt (show i + 1 < 2^64 by omega), toNat_ofNat_of_lt (show s < 2^64 by omega),
    true_and]

/-- C13: the control shape of the source is the one the step relation below models (one load, one
CAS on (prev,next), history store only after a successful CAS, failure returns the loaded state;
`Set` = retry loop of `Transition(Get(), val)`; initial word and history[0] stored by the constructor). -/
theorem source_shape :
    transitionShape = "{curr=s.state.Load();if s.state.CompareAndSwap(prev,next){s.history.Store(nextIndex,nxt);return nxt,true;}return (curr&0b1111),false;}"
    ∧ setShape = "{for {if _=s.Transition(s.Get(),val);ok{break;}runtime.Gosched();}}"
    ∧ newShape = "{s.state.Store(((index<<4)|state));s.history.Store(0,initial);return s;}"
    ∧ numStates ≤ 16 := ⟨rfl, rfl, rfl, by decide⟩

/-! ## Part 2: the CAS protocol, all schedules, any number of threads

A `Word` `⟨i, s⟩` stands for the packed word `pack i s` of Part 1 (`pack_inj`: nothing is lost), and the guard of
`Step.casOk`, `s.word = ⟨cur.idx, exp⟩`, is the compare of the real CAS by `cas_compare_iff`. -/

abbrev St := Nat           -- lifecycle state, < 16
structure Word where
  idx : Nat
  st  : St
deriving DecidableEq, Repr

inductive PC where
  | idle
  | loaded (cur : Word) (exp nxt : St)   -- `curr` loaded, CAS outstanding
  | pending (idx : Nat) (st : St)         -- CAS succeeded, history store outstanding
deriving DecidableEq, Repr

/-- ghost record of one successful CAS -/
structure Win where
  t : Nat          -- thread
  base : Nat       -- index of the word that the thread had loaded
  exp : St
  nxt : St
deriving DecidableEq, Repr

structure Sys where
  word  : Word
  pc    : Nat → PC
  hist  : Nat → Option St
  ghost : List St                        -- ghost: state after every successful transition, in order
  wins  : List Win                       -- ghost: the successful CASes, in order

def upd {α} (f : Nat → α) (i : Nat) (v : α) : Nat → α := fun j => if j = i then v else f j

/-- One atomic step of one goroutine. `load` is `Transition`'s `s.state.Load()` with arbitrary
arguments (`Set` passes `exp := Get()`, which is just some earlier value — covered by "arbitrary");
a failed `Transition` returns to `idle`, from where `Set`'s loop may `load` again. -/
inductive Step : Sys → Sys → Prop
  | load (s : Sys) (t : Nat) (exp nxt : St) (h : s.pc t = .idle) :
      Step s { s with pc := upd s.pc t (.loaded s.word exp nxt) }
  | casOk (s : Sys) (t : Nat) (cur : Word) (exp nxt : St) (h : s.pc t = .loaded cur exp nxt)
      (hw : s.word = ⟨cur.idx, exp⟩) :
      Step s { s with word := ⟨cur.idx + 1, nxt⟩, pc := upd s.pc t (.pending (cur.idx + 1) nxt),
                      ghost := s.ghost ++ [nxt], wins := s.wins ++ [⟨t, cur.idx, exp, nxt⟩] }
  | casFail (s : Sys) (t : Nat) (cur : Word) (exp nxt : St) (h : s.pc t = .loaded cur exp nxt)
      (hw : s.word ≠ ⟨cur.idx, exp⟩) :
      Step s { s with pc := upd s.pc t .idle }
  | store (s : Sys) (t : Nat) (i : Nat) (v : St) (h : s.pc t = .pending i v) :
      Step s { s with pc := upd s.pc t .idle, hist := upd s.hist i (some v) }

inductive Reach : Sys → Sys → Prop
  | refl (s : Sys) : Reach s s
  | step {s s' s'' : Sys} : Reach s s' → Step s' s'' → Reach s s''

def init (s0 : St) : Sys :=
  { word := ⟨0, s0⟩, pc := fun _ => .idle, hist := upd (fun _ => none) 0 (some s0), ghost := [s0], wins := [] }

structure Inv (s : Sys) : Prop where
  len   : s.ghost.length = s.word.idx + 1
  last  : s.ghost[s.word.idx]? = some s.word.st
  sound : ∀ i v, s.hist i = some v → s.ghost[i]? = some v
  pend  : ∀ t i v, s.pc t = .pending i v → s.ghost[i]? = some v ∧ i ≤ s.word.idx
  compl : ∀ i, i ≤ s.word.idx → s.hist i = none → ∃ t v, s.pc t = .pending i v
  loadedLe : ∀ t cur e n, s.pc t = .loaded cur e n → cur.idx ≤ s.word.idx
  wlen  : s.wins.length = s.word.idx
  wchain : ∀ i w, s.wins[i]? = some w →
      w.base = i ∧ s.ghost[i]? = some w.exp ∧ s.ghost[i + 1]? = some w.nxt

section
variable {α : Type} {f : Nat → α} {i j : Nat} {x y : α}

theorem upd_same : upd f i x i = x := if_pos rfl

theorem upd_keep (h : f j = y) (hi : f i ≠ y) : upd f i x j = y := by
  fun_cases upd f i x j
  · next e => exact absurd (e ▸ h) hi
  · exact h

end

theorem getElem?_concat_eq_some {α} {l : List α} {a b : α} {i : Nat} :
    (l ++ [a])[i]? = some b ↔ l[i]? = some b ∨ i = l.length ∧ a = b := by
  induction l generalizing i with
  | nil => cases i <;> simp
  | cons x l ih => cases i <;> simp [ih]

theorem inv_init (s0 : St) : Inv (init s0) :=
  { len := rfl, last := rfl, wlen := rfl
    sound := fun i v h => by
      rcases of_upd (f := fun _ => none) (i := 0) h with ⟨rfl, hx⟩ | ⟨_, hx⟩
      · exact hx
      · cases hx
    pend := fun _ _ _ h => nomatch h
    compl := fun i hi h => by
      cases Nat.le_zero.mp hi
      cases h
    loadedLe := fun _ _ _ _ h => nomatch h
    wchain := fun _ _ h => nomatch h }

/-- `hold`: a thread that leaves `pending` has done its store, so no index loses its witness -/
theorem Inv.set_pc {s : Sys} (hi : Inv s) (t : Nat) {x : PC} (hx : ∀ i v, x ≠ .pending i v)
    (hle : ∀ c e n, x = .loaded c e n → c.idx ≤ s.word.idx)
    (hold : ∀ i v, s.pc t = .pending i v → s.hist i ≠ none) : Inv { s with pc := upd s.pc t x } :=
  { hi with
    pend := fun t' i v hp => hi.pend t' i v (of_upd_ne hp (hx i v))
    compl := fun i hi' hn => by
      obtain ⟨t', v, hp⟩ := hi.compl i hi' hn
      exact ⟨t', v, upd_keep hp (fun h => hold i v h hn)⟩
    loadedLe := fun t' c e n hp =>
      (of_upd hp).elim (fun h => hle c e n h.2) (fun h => hi.loadedLe t' c e n h.2) }

theorem Inv.set_hist {s : Sys} (hi : Inv s) {i : Nat} {v : St} (hg : s.ghost[i]? = some v) :
    Inv { s with hist := upd s.hist i (some v) } :=
  { hi with
    sound := fun j w hh => (of_upd hh).elim (fun h => by cases h.2; exact h.1 ▸ hg) (fun h => hi.sound j w h.2)
    compl := fun j hj hn => hi.compl j hj (of_upd_ne hn nofun) }

theorem inv_step {s s' : Sys} (hi : Inv s) (hs : Step s s') : Inv s' := by
  cases hs with
  | load t exp nxt h =>
    exact hi.set_pc t nofun (fun c e n hx => by cases hx; exact Nat.le_refl _) (fun i v hp => nomatch h.symm.trans hp)
  | casFail t cur exp nxt h hw =>
    exact hi.set_pc t nofun nofun (fun i v hp => nomatch h.symm.trans hp)
  | store t i v h =>
    refine (hi.set_hist (hi.pend t i v h).1).set_pc t nofun nofun (fun j w hp => ?_)
    cases h.symm.trans hp
    show upd s.hist i (some v) i ≠ none
    rw [upd_same]; nofun
  | casOk t cur exp nxt h hw =>
    obtain ⟨word, pc, hist, ghost, wins⟩ := s
    cases hw
    have hlen : ghost.length = cur.idx + 1 := hi.len
    have hnew : (ghost ++ [nxt])[cur.idx + 1]? = some nxt := hlen ▸ List.getElem?_concat_length
    have mono {i v} (hg : ghost[i]? = some v) : (ghost ++ [nxt])[i]? = some v :=
      getElem?_concat_eq_some.mpr (.inl hg)
    refine { len := ?_, last := hnew, sound := fun i v hh => mono (hi.sound i v hh), pend := ?_, compl := ?_,
             loadedLe := ?_, wlen := ?_, wchain := ?_ }
    · show (ghost ++ [nxt]).length = cur.idx + 1 + 1
      rw [List.length_append, hlen]; rfl
    · intro t' i v hp
      rcases of_upd hp with ⟨_, hx⟩ | ⟨_, hp⟩
      · cases hx; exact ⟨hnew, Nat.le_refl _⟩
      · obtain ⟨hg, hle⟩ := hi.pend t' i v hp
        exact ⟨mono hg, Nat.le_succ_of_le hle⟩
    · intro i hle hn
      rcases Nat.lt_or_ge cur.idx i with hc | hc
      · have : i = cur.idx + 1 := Nat.le_antisymm hle hc
        exact ⟨t, nxt, this ▸ upd_same ..⟩
      · obtain ⟨t', v, hp⟩ := hi.compl i hc hn
        exact ⟨t', v, upd_keep hp (by rw [h]; nofun)⟩
    · intro t' c e n hp
      exact Nat.le_succ_of_le (hi.loadedLe t' c e n (of_upd_ne hp nofun))
    · show (wins ++ [_]).length = cur.idx + 1
      rw [List.length_append, hi.wlen]; rfl
    · intro i w hwi
      rcases getElem?_concat_eq_some.mp hwi with hwi | ⟨rfl, rfl⟩
      · obtain ⟨h1, h2, h3⟩ := hi.wchain i w hwi
        exact ⟨h1, mono h2, mono h3⟩
      · -- the new win: its index is the old word's index, whose recorded state is the expected one
        rw [show wins.length = cur.idx from hi.wlen]
        exact ⟨rfl, mono hi.last, hnew⟩

theorem Reach.preserves {P : Sys → Prop} (hstep : ∀ {s s'}, P s → Step s s' → P s') {s s' : Sys} (h : P s)
    (hr : Reach s s') : P s' := by
  induction hr with
  | refl => exact h
  | step _ hs ih => exact hstep ih hs

/-- C13: every state reachable from a fresh `nodeState`, under every schedule, satisfies the invariant. -/
theorem inv_reachable (s0 : St) {s : Sys} (hr : Reach (init s0) s) : Inv s :=
  hr.preserves inv_step (inv_init s0)

/-- C13: the word's index counts the successful transitions and the word's state
(what `Get()` reports) is the last successful transition, at every moment of every schedule. -/
theorem ghost_matches_word (s0 : St) {s : Sys} (hr : Reach (init s0) s) :
    s.word.idx + 1 = s.ghost.length ∧ s.ghost.getLast? = some s.word.st ∧ s.wins.length = s.word.idx := by
  have hi := inv_reachable s0 hr
  refine ⟨hi.len.symm, ?_, hi.wlen⟩
  rw [List.getLast?_eq_getElem?, hi.len]; simpa using hi.last

/-- C13: whatever the history map shows at any moment is the state of the successful
transition with that index (no lost / misplaced / invented entry). -/
theorem history_sound (s0 : St) {s : Sys} (hr : Reach (init s0) s) (i : Nat) (v : St)
    (h : s.hist i = some v) : s.ghost[i]? = some v :=
  (inv_reachable s0 hr).sound i v h

/-- C13: when no goroutine is inside `Transition`, `History()` is exactly
the log of successful transitions in order, and `Get()` is its last entry. -/
theorem history_complete_at_quiescence (s0 : St) {s : Sys} (hr : Reach (init s0) s)
    (hq : ∀ t, s.pc t = .idle) :
    (∀ i, i ≤ s.word.idx → s.hist i = s.ghost[i]?) ∧ (∀ i, s.word.idx < i → s.hist i = none) ∧
    s.ghost[s.word.idx]? = some s.word.st := by
  have hi := inv_reachable s0 hr
  refine ⟨fun i hle => ?_, fun i hlt => ?_, hi.last⟩
  · cases hh : s.hist i with
    | some v => exact (hi.sound i v hh).symm
    | none =>
      obtain ⟨t, v, hp⟩ := hi.compl i hle hh
      exact nomatch (hq t).symm.trans hp
  · cases hh : s.hist i with
    | none => rfl
    | some v =>
      have := (List.getElem?_eq_some_iff.mp (hi.sound i v hh)).1
      have := hi.len
      omega

/-- C13: the k-th successful CAS consumed exactly the state left by the (k-1)-th one
(its expected state is the previously recorded state) and produced the k-th recorded state. -/
theorem wins_form_chain (s0 : St) {s : Sys} (hr : Reach (init s0) s) (i : Nat) (w : Win)
    (h : s.wins[i]? = some w) :
    w.base = i ∧ s.ghost[i]? = some w.exp ∧ s.ghost[i + 1]? = some w.nxt :=
  (inv_reachable s0 hr).wchain i w h

/-- C13 (at most one winner): two successful CASes never start from the same loaded
index; so of any number of goroutines that loaded the same word at most one succeeds. -/
theorem cas_unique_per_index (s0 : St) {s : Sys} (hr : Reach (init s0) s) (i j : Nat) (a b : Win)
    (ha : s.wins[i]? = some a) (hb : s.wins[j]? = some b) (hbase : a.base = b.base) : i = j := by
  have h1 := (wins_form_chain s0 hr i a ha).1
  have h2 := (wins_form_chain s0 hr j b hb).1
  exact h1.symm.trans (hbase.trans h2)

/-- the invariant that carries `exactly_one_winner`: racer `t` is still loaded on the unchanged word `w`, or somebody
has won from `w.idx` -/
def Race (w : Word) (t : Nat) (n : St) (s : Sys) : Prop :=
  (s.word = w ∧ s.pc t = .loaded w w.st n) ∨ ∃ x ∈ s.wins, x.base = w.idx

theorem race_step {w : Word} {t : Nat} {n : St} {s s' : Sys} (hr : Race w t n s)
    (hs : Step s s') : Race w t n s' := by
  rcases hr with ⟨hw, hp⟩ | ⟨x, hx, hb⟩
  · cases hs with
    | load t' exp nxt h => exact .inl ⟨hw, upd_keep hp (by rw [h]; nofun)⟩
    | store t' i v h => exact .inl ⟨hw, upd_keep hp (by rw [h]; nofun)⟩
    | casFail t' cur exp nxt h hw' =>
      -- had the racer itself failed, the word would differ from the one it loaded
      exact .inl ⟨hw, upd_keep hp (by rw [h]; intro e; cases e; exact hw' hw)⟩
    | casOk t' cur exp nxt h hw' =>
      exact .inr ⟨_, List.mem_append_right _ (List.mem_singleton_self _), by rw [← hw, hw']⟩
  · cases hs with
    | casOk => exact .inr ⟨x, List.mem_append_left _ hx, hb⟩
    | _ => exact .inr ⟨x, hx, hb⟩

/-- C13: let goroutine `t` have loaded the current word `w` and expect its state
(`exp = w.st`; any number of other goroutines may have done the same or anything else). In every
continuation of the schedule in which `t` has executed its CAS, exactly one successful CAS started from
index `w.idx` (existence and uniqueness): some racer won, and no two did. -/
theorem exactly_one_winner (s0 : St) {s s' : Sys} (hr0 : Reach (init s0) s) (t : Nat) (n : St)
    (hl : s.pc t = .loaded s.word s.word.st n) (hr : Reach s s')
    (hdone : s'.pc t ≠ .loaded s.word s.word.st n) :
    ∃ (i : Nat) (x : Win), s'.wins[i]? = some x ∧ x.base = s.word.idx ∧
      ∀ (j : Nat) (y : Win), s'.wins[j]? = some y → y.base = s.word.idx → j = i := by
  have hr' : Reach (init s0) s' := hr.preserves .step hr0
  have hrace : Race s.word t n s' := hr.preserves race_step (.inl ⟨rfl, hl⟩)
  obtain ⟨x, hx, hb⟩ := hrace.resolve_left (fun h => hdone h.2)
  obtain ⟨i, hi⟩ := List.getElem?_of_mem hx
  exact ⟨i, x, hi, hb, fun j y hy hyb => cas_unique_per_index s0 hr' j i y x hy hi (hyb.trans hb.symm)⟩

/-- a racer whose expectation is wrong never wins from that load: `casOk` requires the expected state -/
theorem win_requires_expected (s0 : St) {s : Sys} (hr : Reach (init s0) s) (i : Nat) (w : Win)
    (h : s.wins[i]? = some w) : s.ghost[w.base]? = some w.exp := by
  obtain ⟨h1, h2, _⟩ := wins_form_chain s0 hr i w h
  rw [h1]; exact h2

/-! ### non-vacuity: a concrete two-goroutine race (both load word ⟨0,1⟩ expecting 1) -/
section NonVacuity
def r0 : Sys := init 1
def r1 : Sys := { r0 with pc := upd r0.pc 7 (.loaded r0.word 1 2) }
def r2 : Sys := { r1 with pc := upd r1.pc 8 (.loaded r1.word 1 3) }
def r3 : Sys := { r2 with word := ⟨1, 3⟩, pc := upd r2.pc 8 (.pending 1 3), ghost := r2.ghost ++ [3],
                          wins := r2.wins ++ [⟨8, 0, 1, 3⟩] }
def r4 : Sys := { r3 with pc := upd r3.pc 7 .idle }

example : Step r0 r1 := Step.load r0 7 1 2 rfl
example : Step r1 r2 := Step.load r1 8 1 3 rfl
example : Step r2 r3 := Step.casOk r2 8 ⟨0, 1⟩ 1 3 rfl rfl
example : Step r3 r4 := Step.casFail r3 7 ⟨0, 1⟩ 1 2 rfl (by decide)
/-- hypotheses of `exactly_one_winner` hold at r2 for thread 7, and it has finished at r4 with thread 8 the winner -/
example : r2.pc 7 = .loaded r2.word r2.word.st 2 ∧ r4.pc 7 ≠ .loaded r2.word r2.word.st 2 ∧
    r4.wins = [⟨8, 0, 1, 3⟩] := by decide +kernel
example : pack 5 3 = 83#64 ∧ tr_prev (pack 5 3) 3#64 4#64 = pack 5 3 ∧ tr_next (pack 5 3) 3#64 4#64 = pack 6 4 := by decide +kernel
example : (Seq.new 0).transition 0 1 = (⟨pack 1 1, [(1, 1), (0, 0)]⟩, 1, true) := by decide +kernel
end NonVacuity

end Specter.C13
