import SpecterModel.C36.Model
/-!
# C36 — The gateway reports tunnel failures with the right status

HTTP: theorems about `classify` (the generated `errorHandler` chain) for EVERY error value = any stack of
`fmt.Errorf %w` / `net.OpError` / `url.Error` wrappers around any innermost error. Streams: theorems about the status
frames of `forwardTCP` and the HTTP statuses of `httpConnect` for every combination of stage outcomes.
-/
namespace Specter.C36
open Gen.C36

theorem timeoutMethod_eq (ws : List Wrap) (k : Kind) :
    timeoutMethod ws k = (ws.all Wrap.isNet && (decide (k = .deadline) || decide (k = .netTimeout))) := by
  fun_induction timeoutMethod ws k <;> simp_all [Wrap.isNet]

theorem asNet_eq (ws : List Wrap) (k : Kind) :
    asNetErrorTimeout ws k = ((ws.dropWhile (fun w => decide (w = .fmt))).all Wrap.isNet &&
      (decide (k = .deadline) || decide (k = .netTimeout))) := by
  fun_induction asNetErrorTimeout ws k <;> simp_all [timeoutMethod_eq, List.dropWhile, Wrap.isNet]

/-- `tun.IsTimeout`, completely: a context deadline under ANY wrapper stack; any other net timeout exactly when,
below the leading `%w` layers, only `net.Error` wrappers (OpError / url.Error) remain. -/
theorem isTimeout_iff (ws : List Wrap) (k : Kind) :
    isTimeout ⟨ws, k⟩ = (decide (k = .deadline) ||
      (decide (k = .netTimeout) && (ws.dropWhile (fun w => decide (w = .fmt))).all Wrap.isNet)) := by
  cases k <;> simp [isTimeout, Err.is, asNet_eq]

/-- `tun.IsTimeout` answers true for `context.DeadlineExceeded` however it is wrapped — including inside a
`net.OpError` / `url.Error` whose own `Timeout()` says false because its direct inner error is a `%w` layer. -/
theorem isTimeout_deadline (e : Err) (h : e.leaf = .deadline) : isTimeout e = true := by
  simp [isTimeout, Err.is, h]

theorem classifyWith_eq (tmo : Err → Bool) (e : Err) :
    classifyWith tmo e =
      match e.leaf with
      | .notFound => .status 404
      | .notConnected => .status 503
      | .canceled | .eof => .silent
      | _ => if tmo e then .status 504 else .status 502 := by
  obtain ⟨ws, k⟩ := e
  cases k
  case notFound | notConnected | canceled | eof => rfl
  all_goals
    dsimp only [classifyWith, errorChain, List.find?, evalCond]
    cases tmo _ <;> rfl

/-- Complete decision table of `errorHandler`, for every wrapper stack. -/
theorem classify_table (ws : List Wrap) (k : Kind) :
    classify ⟨ws, k⟩ =
      match k with
      | .notFound => .status 404
      | .notConnected => .status 503
      | .canceled | .eof => .silent
      | .deadline => .status 504
      | .netTimeout =>
        if (ws.dropWhile (fun w => decide (w = .fmt))).all Wrap.isNet then .status 504 else .status 502
      | .noDirect | .netOther | .other => .status 502 := by
  rw [classify, classifyWith_eq]
  cases k <;> simp [isTimeout_iff]

/-- missing tunnel → 404, however deeply the error is wrapped -/
theorem http_not_found (e : Err) (h : e.leaf = .notFound) : classify e = .status 404 := by
  rw [classify_table, h]

/-- tunnel client offline → 503, however deeply wrapped -/
theorem http_not_connected (e : Err) (h : e.leaf = .notConnected) : classify e = .status 503 := by
  rw [classify_table, h]

/-- a timeout → 504: a context deadline or any other net timeout (possibly nested in `net.OpError`s / `url.Error`s)
under ANY number of `%w` layers. -/
theorem http_timeout (fs os : List Wrap) (k : Kind) (hk : k = .deadline ∨ k = .netTimeout)
    (hf : ∀ w ∈ fs, w = .fmt) (ho : ∀ w ∈ os, w.isNet = true) :
    classify ⟨fs ++ os, k⟩ = .status 504 := by
  rw [classify_table]
  rcases hk with rfl | rfl
  · rfl
  · have : ((fs ++ os).dropWhile (fun w => decide (w = .fmt))).all Wrap.isNet = true := by
      rw [List.dropWhile_append_of_pos (by simpa using hf), List.all_eq_true]
      exact fun w hw => ho w ((List.dropWhile_sublist _).subset hw)
    exact if_pos this

/-- a context deadline → 504 under every wrapper stack whatsoever -/
theorem http_deadline (e : Err) (h : e.leaf = .deadline) : classify e = .status 504 := by
  rw [classify_table, h]

/-- The shape that defeats `errors.As` alone: the deadline sits under `%w` layers INSIDE a `net.Error` wrapper `n`
(OpError / url.Error), itself under any stack; still 504. The harness judges this shape with a SPEC verdict. -/
theorem http_deadline_inside_net_wrapper (pre post : List Wrap) (n : Wrap) :
    classify ⟨pre ++ n :: .fmt :: post, .deadline⟩ = .status 504 :=
  http_deadline _ rfl

/-- Why the first clause of `tun.IsTimeout` (`errors.Is(err, context.DeadlineExceeded)`) is needed: with only the
`errors.As(err, &netErr)` → `Timeout()` branch, a deadline that is `%w`-wrapped inside a `net.OpError` / `url.Error`
(under any number of outer `%w` layers) would be reported as 502, not 504. -/
theorem deadline_clause_is_needed (fs post : List Wrap) (n : Wrap) (hf : ∀ w ∈ fs, w = .fmt) (hn : n.isNet = true) :
    classifyWith isTimeoutAsOnly ⟨fs ++ n :: .fmt :: post, .deadline⟩ = .status 502 ∧
    classify ⟨fs ++ n :: .fmt :: post, .deadline⟩ = .status 504 := by
  refine ⟨?_, http_deadline _ rfl⟩
  have hn' : n ≠ .fmt := by rintro rfl; cases hn
  have hd : (fs ++ n :: .fmt :: post).dropWhile (fun w => decide (w = .fmt)) = n :: .fmt :: post := by
    rw [List.dropWhile_append_of_pos (by simpa using hf), List.dropWhile_cons_of_neg (by simpa using hn')]
  simp [classifyWith_eq, isTimeoutAsOnly, asNet_eq, hd, Wrap.isNet]

/-- Residual corner (outside the property's quantifier for net timeouts OTHER than the context deadline; recorded
as an observation): a `net.OpError` / `url.Error` directly around a `%w` layer answers `Timeout() = false` itself,
so `errors.As` stops there. -/
theorem operror_over_fmt_hides_net_timeout (ws : List Wrap) (n : Wrap) (hn : n.isNet = true) :
    classify ⟨n :: .fmt :: ws, .netTimeout⟩ = .status 502 := by
  rw [classify_table]; cases n <;> simp_all [List.dropWhile, Wrap.isNet]

/-- The defect that was fixed by commit "fix: detect wrapped network timeouts", as a theorem about the PRE-FIX
`IsTimeout` (type assertion on the outermost value): any `%w` layer turned a net timeout into 502. -/
theorem prefix_wrapped_net_timeout_is_502 (ws : List Wrap) (h : .fmt ∈ ws) :
    classifyWith isTimeoutPreFix ⟨ws, .netTimeout⟩ = .status 502 := by
  have : ws.all Wrap.isNet = false := by
    rw [List.all_eq_false]; exact ⟨.fmt, h, by decide⟩
  simp [classifyWith_eq, isTimeoutPreFix, Err.is, timeoutMethod_eq, this]

/-- any other forwarding failure → 502 -/
theorem http_other (e : Err) (h : e.leaf = .noDirect ∨ e.leaf = .netOther ∨ e.leaf = .other) :
    classify e = .status 502 := by
  rw [classify_table]
  rcases h with h | h | h <;> rw [h]

/-- fact of the code: a caller that went away (context.Canceled / io.EOF) gets nothing written -/
theorem http_canceled_eof_silent (e : Err) (h : e.leaf = .canceled ∨ e.leaf = .eof) : classify e = .silent := by
  rw [classify_table]
  rcases h with h | h <;> rw [h]

/-- one more wrapper, of any kind, changes the class of no error except a net timeout's (there the stack decides) -/
theorem http_wrap_invariant (e : Err) (w : Wrap) (h : e.leaf ≠ .netTimeout) :
    classify ⟨w :: e.wraps, e.leaf⟩ = classify e := by
  cases e with | mk ws k => rw [classify_table, classify_table]; cases k <;> simp_all

def failed (drain : Option Err) (hostOk : Bool) (dial : Option Err) : Prop :=
  drain ≠ none ∨ hostOk = false ∨ dial ≠ none

theorem statusOf_ne_ok (e : Err) : statusOf e ≠ .ok := by
  fun_cases statusOf e <;> simp

/-- Any failing stage: the caller is sent exactly one failure status frame (never OK), immediately followed by
the close, and nothing is piped. -/
theorem tcp_failure_status_before_close (drain : Option Err) (hostOk : Bool) (dial : Option Err)
    (h : failed drain hostOk dial) :
    ∃ pre f, forwardTCP drain hostOk dial = pre ++ [.send f, .close] ∧ f ≠ .ok ∧
      (∀ g, Ev.send g ∉ pre) ∧ Ev.pipe ∉ forwardTCP drain hostOk dial := by
  revert h
  fun_cases forwardTCP drain hostOk dial
  case case1 e => exact fun _ => ⟨[], _, rfl, statusOf_ne_ok e, by simp, by simp⟩          -- the poke failed
  case case2 => exact fun _ => ⟨[], _, rfl, statusOf_ne_ok _, by simp, by simp⟩            -- no hostname
  case case3 e => exact fun _ => ⟨[.dial], _, rfl, statusOf_ne_ok e, by simp, by simp⟩     -- the dial failed
  case case4 hh =>                                                                          -- nothing failed
    intro hf
    simp [failed] at hf
    simp [hf] at hh

/-- the failure frame is NO_DIRECT exactly for `ErrNoDirect` / `ErrTunnelClientNotConnected` (any wrapping) -/
theorem tcp_dial_failure_frame (e : Err) :
    forwardTCP none true (some e) = [.dial, .send (if e.leaf = .noDirect ∨ e.leaf = .notConnected then .noDirect else .unknownError), .close] := by
  simp [forwardTCP, statusOf, isNoDirect, Err.is]

/-- Success: bytes are relayed only when every stage succeeded, i.e. a client connection exists; the gateway
itself never originates a status frame then — in particular never a success status. -/
theorem tcp_success_only_with_client (drain : Option Err) (hostOk : Bool) (dial : Option Err)
    (h : Ev.pipe ∈ forwardTCP drain hostOk dial) :
    drain = none ∧ hostOk = true ∧ dial = none ∧ Ev.dial ∈ forwardTCP drain hostOk dial ∧
      ∀ f, Ev.send f ∉ forwardTCP drain hostOk dial := by
  unfold forwardTCP at *
  cases drain <;> cases hostOk <;> cases dial <;> simp_all

theorem tcp_never_originates_ok (drain : Option Err) (hostOk : Bool) (dial : Option Err) :
    Ev.send .ok ∉ forwardTCP drain hostOk dial := by
  fun_cases forwardTCP drain hostOk dial <;> simp [(statusOf_ne_ok _).symm]

/-- DialClient is not attempted after an earlier stage failed -/
theorem tcp_no_dial_after_early_failure (drain : Option Err) (hostOk : Bool) (dial : Option Err)
    (h : drain ≠ none ∨ hostOk = false) : Ev.dial ∉ forwardTCP drain hostOk dial := by
  unfold forwardTCP
  cases drain <;> cases hostOk <;> simp_all

/-- Every failure: the caller gets a failure status (404 / 502 / 503 / 500), nothing is piped, and a remote
stream that was opened is closed by the gateway. -/
theorem connect_failure_status (addrOk : Bool) (dial : Option Err) (recvOk : Bool) (st : Frame) (hj : Bool)
    (h : ¬ (addrOk = true ∧ dial = none ∧ recvOk = true ∧ st = .ok ∧ hj = true)) :
    let o := httpConnect addrOk dial recvOk st hj
    o.status ∈ [404, 502, 503, 500] ∧ o.piped = false ∧ ((addrOk = true ∧ dial = none) → o.remoteClosed = true) := by
  -- one case per `return` of the handler, in source order
  unfold httpConnect
  cases addrOk
  · simp
  cases dial
  case some => simp
  cases recvOk
  · simp
  by_cases hs : st = .ok
  case neg => simp [hs]
  cases hj
  · simp [hs]
  · simp [hs] at h

/-- 200 is sent exactly when a client connection exists AND it reported STATUS_OK (and the stream could be taken over). -/
theorem connect_success_iff (addrOk : Bool) (dial : Option Err) (recvOk : Bool) (st : Frame) (hj : Bool) :
    (httpConnect addrOk dial recvOk st hj).status = 200 ↔
      (addrOk = true ∧ dial = none ∧ recvOk = true ∧ st = .ok ∧ hj = true) := by
  refine ⟨fun h => Classical.byContradiction fun hn => ?_, by rintro ⟨rfl, rfl, rfl, rfl, rfl⟩; rfl⟩
  have := (connect_failure_status addrOk dial recvOk st hj hn).1
  simp [h] at this

theorem connect_piped_iff_200 (addrOk : Bool) (dial : Option Err) (recvOk : Bool) (st : Frame) (hj : Bool) :
    (httpConnect addrOk dial recvOk st hj).piped = true ↔ (httpConnect addrOk dial recvOk st hj).status = 200 := by
  rw [connect_success_iff]
  refine ⟨fun h => Classical.byContradiction fun hn => ?_, by rintro ⟨rfl, rfl, rfl, rfl, rfl⟩; rfl⟩
  have := (connect_failure_status addrOk dial recvOk st hj hn).2.1
  simp [h] at this

/-! ## Non-vacuity -/
example : classify ⟨[.fmt, .fmt], .notFound⟩ = .status 404 := by decide +kernel
example : classify ⟨[.fmt], .notConnected⟩ = .status 503 := by decide +kernel
example : classify ⟨[.fmt, .op], .deadline⟩ = .status 504 := by decide +kernel
example : classify ⟨[.op, .op], .netTimeout⟩ = .status 504 := by decide +kernel
example : classify ⟨[.fmt, .fmt, .op], .netTimeout⟩ = .status 504 := by decide +kernel
example : classifyWith isTimeoutPreFix ⟨[.fmt], .netTimeout⟩ = .status 502 := by decide +kernel   -- the repaired defect
example : classify ⟨[.op, .fmt], .netTimeout⟩ = .status 502 := by decide +kernel
example : classify ⟨[.url, .fmt], .deadline⟩ = .status 504 := by decide +kernel           -- http_deadline_inside_net_wrapper
example : classify ⟨[.fmt, .op, .fmt], .deadline⟩ = .status 504 := by decide +kernel
example : isTimeout ⟨[.op, .fmt], .deadline⟩ = true ∧ isTimeoutAsOnly ⟨[.op, .fmt], .deadline⟩ = false := by decide +kernel
example : classifyWith isTimeoutAsOnly ⟨[.fmt, .url, .fmt], .deadline⟩ = .status 502 := by decide +kernel   -- deadline_clause_is_needed
example : classify ⟨[.fmt, .url, .op], .netTimeout⟩ = .status 504 := by decide +kernel
example : classify ⟨[], .other⟩ = .status 502 := by decide +kernel
example : failed none true (some ⟨[.fmt], .notConnected⟩) ∧
    forwardTCP none true (some ⟨[.fmt], .notConnected⟩) = [.dial, .send .noDirect, .close] := by
  refine ⟨by simp [failed], by decide +kernel⟩
example : forwardTCP none true none = [.dial, .pipe] := by decide +kernel
example : httpConnect true none true .ok true = ⟨200, true, false, true⟩ := by decide +kernel
example : httpConnect true none true .noDirect true = ⟨503, true, true, false⟩ := by decide +kernel

end Specter.C36
