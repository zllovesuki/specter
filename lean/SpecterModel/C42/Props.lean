import SpecterModel.C42.Model
/-!
# C42 — Incoming streams are dispatched to the right handler
For EVERY sequence of registrations (virtual / physical / tunnel, any kinds, ids, handlers) and every
incoming (type, target).
-/
namespace Specter.C42

def Op.handler : Op → Nat
  | .handleChord _ _ h => h
  | .handleTunnel _ h => h

/-- most recent registration for a table slot: the one oracle behind `lastVirt`, `lastPhys` and `lastTun` -/
def lastKey : List Op → Key → Option Nat
  | [], _ => none
  | op :: rest, key => (lastKey rest key).or (if op.key = key then some op.handler else none)

theorem lastVirt_eq_lastKey (ops : List Op) (k i : Nat) : lastVirt ops k i = lastKey ops (.virt k i) := by
  induction ops with
  | nil => rfl
  | cons op rest ih =>
    simp only [lastVirt, lastKey, ih]
    cases lastKey rest (.virt k i) with
    | some h => rfl
    | none => rcases op with ⟨k', _ | i', h⟩ | ⟨k', h⟩ <;> simp [Op.key, Op.handler]

theorem lastPhys_eq_lastKey (ops : List Op) (k : Nat) : lastPhys ops k = lastKey ops (.phys k) := by
  induction ops with
  | nil => rfl
  | cons op rest ih =>
    simp only [lastPhys, lastKey, ih]
    cases lastKey rest (.phys k) with
    | some h => rfl
    | none => rcases op with ⟨k', _ | i', h⟩ | ⟨k', h⟩ <;> simp [Op.key, Op.handler]

theorem lastTun_eq_lastKey (ops : List Op) (k : Nat) : lastTun ops k = lastKey ops (.tun k) := by
  induction ops with
  | nil => rfl
  | cons op rest ih =>
    simp only [lastTun, lastKey, ih]
    cases lastKey rest (.tun k) with
    | some h => rfl
    | none => rcases op with ⟨k', _ | i', h⟩ | ⟨k', h⟩ <;> simp [Op.key, Op.handler]

def slot (s : State) : Key → Option Nat
  | .virt k i => (s.virt k).bind (· i)
  | .phys k => s.phys k
  | .tun k => s.tun k

theorem upd_apply {β : Type} (f : Nat → β) (k : Nat) (v : β) (x : Nat) :
    upd f k v x = if k = x then v else f x := by
  simp only [upd, eq_comm]

theorem slot_register (s : State) (op : Op) (key : Key) :
    slot (register s op) key = if op.key = key then some op.handler else slot s key := by
  rcases op with ⟨k', _ | i', h⟩ | ⟨k', h⟩ <;> cases key
  case handleChord.none.phys k | handleTunnel.tun k =>
    simp only [register, slot, Op.key, Op.handler, upd_apply, Key.phys.injEq, Key.tun.injEq]
  case handleChord.some.virt k i =>
    -- the registration is read back through the per-kind map, which it may have created
    simp only [register, slot, Op.key, Op.handler, upd_apply, Key.virt.injEq]
    by_cases hk : k' = k
    · subst hk; cases s.virt k' <;> simp [upd_apply]
    · simp [hk]
  all_goals rfl

theorem phys_register (s : State) (op : Op) (k : Nat) :
    (register s op).phys k =
      (match op with
       | .handleChord k' none h => if k' = k then some h else s.phys k
       | _ => s.phys k) := by
  refine (slot_register s op (.phys k)).trans ?_
  rcases op with ⟨k', _ | i', h⟩ | ⟨k', h⟩ <;> simp [Op.key, Op.handler, slot]

theorem tun_register (s : State) (op : Op) (k : Nat) :
    (register s op).tun k =
      (match op with
       | .handleTunnel k' h => if k' = k then some h else s.tun k
       | _ => s.tun k) := by
  refine (slot_register s op (.tun k)).trans ?_
  rcases op with ⟨k', _ | i', h⟩ | ⟨k', h⟩ <;> simp [Op.key, Op.handler, slot]

theorem slot_foldl (ops : List Op) (s : State) (key : Key) :
    slot (ops.foldl register s) key = (lastKey ops key).or (slot s key) := by
  induction ops generalizing s with
  | nil => rfl
  | cons op rest ih =>
    rw [List.foldl_cons, ih, slot_register, lastKey, Option.or_assoc]
    split <;> rfl

theorem slot_run (ops : List Op) (key : Key) : slot (run ops) key = lastKey ops key := by
  rw [run, slot_foldl, show slot init key = none by cases key <;> rfl, Option.or_none]

theorem dispatchChord_eq_slot (s : State) (k i : Nat) :
    dispatchChord s k i = (slot s (.virt k i)).or (slot s (.phys k)) := by
  fun_cases dispatchChord s k i <;> simp_all [slot]

theorem dispatchChord_lastKey (ops : List Op) (kind id : Nat) :
    dispatchChord (run ops) kind id = (lastKey ops (.virt kind id)).or (lastKey ops (.phys kind)) := by
  rw [dispatchChord_eq_slot, slot_run, slot_run]

theorem dispatchTunnel_lastKey (ops : List Op) (kind : Nat) :
    dispatchTunnel (run ops) kind = lastKey ops (.tun kind) :=
  slot_run ops (.tun kind)

/-- **C42 (inter-node streams)**: after any registration history, an incoming (type, target) stream goes to
the most recent handler registered for that type AND target; else to the most recent node-wide handler
of that type; else to nobody (closed). -/
theorem dispatchChord_spec (ops : List Op) (kind id : Nat) :
    dispatchChord (run ops) kind id = specChord ops kind id := by
  rw [dispatchChord_lastKey, specChord, lastVirt_eq_lastKey, lastPhys_eq_lastKey]
  cases lastKey ops (.virt kind id) <;> rfl

/-- **C42 (client streams)**: most recent handler for the type, else closed. -/
theorem dispatchTunnel_spec (ops : List Op) (kind : Nat) :
    dispatchTunnel (run ops) kind = specTunnel ops kind := by
  rw [dispatchTunnel_lastKey, specTunnel, lastTun_eq_lastKey]

/-- the handler registered for (type, target) wins over the node-wide handler -/
theorem virtual_wins (ops : List Op) (kind id h : Nat) (hv : lastVirt ops kind id = some h) :
    dispatchChord (run ops) kind id = some h := by
  rw [dispatchChord_spec, specChord, hv]

/-- no handler for the target: fall back to the node-wide handler of that type -/
theorem falls_back_to_physical (ops : List Op) (kind id : Nat) (hv : lastVirt ops kind id = none) :
    dispatchChord (run ops) kind id = lastPhys ops kind := by
  rw [dispatchChord_spec, specChord, hv]

/-- no matching handler at all: the stream is closed -/
theorem unmatched_is_closed (ops : List Op) (kind id : Nat)
    (hv : lastVirt ops kind id = none) (hp : lastPhys ops kind = none) :
    dispatchChord (run ops) kind id = none := by
  rw [falls_back_to_physical ops kind id hv, hp]

theorem lastKey_append (a b : List Op) (key : Key) :
    lastKey (a ++ b) key = (lastKey b key).or (lastKey a key) := by
  induction a with
  | nil => exact Option.or_none.symm
  | cons op rest ih => simp only [List.cons_append, lastKey, ih, Option.or_assoc]

/-- a registration is visible immediately and overrides earlier ones (last writer wins) -/
theorem last_writer_wins (ops : List Op) (kind id h : Nat) :
    dispatchChord (run (ops ++ [.handleChord kind (some id) h])) kind id = some h := by
  apply virtual_wins
  simp [lastVirt_eq_lastKey, lastKey_append, lastKey, Op.key, Op.handler]

def isTunnelOp : Op → Bool
  | .handleTunnel .. => true
  | _ => false
def isChordOp : Op → Bool
  | .handleChord .. => true
  | _ => false

theorem lastKey_filter (p : Op → Bool) (ops : List Op) (key : Key) (hp : ∀ op, op.key = key → p op = true) :
    lastKey (ops.filter p) key = lastKey ops key := by
  induction ops with
  | nil => rfl
  | cons op rest ih =>
    cases hpo : p op with
    | true => rw [List.filter_cons_of_pos hpo, lastKey, lastKey, ih]
    | false =>
      have hk : ¬ op.key = key := fun e => by simp [hp op e] at hpo
      rw [List.filter_cons_of_neg (by simp [hpo]), ih, lastKey, if_neg hk, Option.or_none]

/-- client dispatch ignores the chord tables … -/
theorem tunnel_ignores_chord (ops : List Op) (kind : Nat) :
    dispatchTunnel (run ops) kind = dispatchTunnel (run (ops.filter isTunnelOp)) kind := by
  rw [dispatchTunnel_lastKey, dispatchTunnel_lastKey, lastKey_filter]
  rintro (⟨k', _ | i', h⟩ | ⟨k', h⟩) <;> simp [Op.key, isTunnelOp]

/-- … and chord dispatch ignores the tunnel table -/
theorem chord_ignores_tunnel (ops : List Op) (kind id : Nat) :
    dispatchChord (run ops) kind id = dispatchChord (run (ops.filter isChordOp)) kind id := by
  rw [dispatchChord_lastKey, dispatchChord_lastKey, lastKey_filter, lastKey_filter] <;>
    rintro (⟨k', _ | i', h⟩ | ⟨k', h⟩) <;> simp [Op.key, isChordOp]

/-! non-vacuity -/
def demo : List Op := [.handleChord 1 none 10, .handleChord 1 (some 7) 11, .handleTunnel 1 12,
  .handleChord 1 (some 7) 13, .handleChord 2 (some 7) 14]
example : dispatchChord (run demo) 1 7 = some 13 := by decide +kernel      -- virtual, last writer
example : dispatchChord (run demo) 1 8 = some 10 := by decide +kernel      -- fallback to physical
example : dispatchChord (run demo) 2 8 = none := by decide +kernel         -- per-kind map exists, no id, no physical
example : dispatchChord (run demo) 3 7 = none := by decide +kernel         -- nothing at all
example : dispatchTunnel (run demo) 1 = some 12 ∧ dispatchTunnel (run demo) 2 = none := by decide +kernel
example : lastVirt demo 1 8 = none ∧ lastPhys demo 1 = some 10 := by decide +kernel

/-! ### Concurrent registrations
A set of registrations issued concurrently takes effect as `register` in SOME order (each table update is one
atomic map operation, see Model).  When their table slots (`Op.key`) are pairwise distinct — different virtual
nodes attaching at the same time — the order is irrelevant and EVERY one of them is effective. -/

theorem pairwise_of_distinctKeys (ops : List Op) (hd : distinctKeys ops = true) :
    ops.Pairwise (fun a b => a.key ≠ b.key) := by
  induction ops with
  | nil => exact .nil
  | cons op rest ih =>
    simp only [distinctKeys, Bool.and_eq_true, List.all_eq_true, decide_eq_true_eq] at hd
    exact .cons (fun o ho => (hd.1 o ho).symm) (ih hd.2)

/-- registrations that write different slots commute -/
theorem lastKey_perm {a b : List Op} (hp : List.Perm a b) (hd : a.Pairwise (fun a b => a.key ≠ b.key)) (key : Key) :
    lastKey a key = lastKey b key := by
  induction hp with
  | nil => rfl
  | cons x _ ih => rw [lastKey, lastKey, ih hd.of_cons]
  | swap x y l =>
    simp only [lastKey, Option.or_assoc]
    congr 1
    by_cases hx : x.key = key <;> by_cases hy : y.key = key <;> simp [hx, hy]
    exact absurd (hy.trans hx.symm) ((List.pairwise_cons.mp hd).1 x List.mem_cons_self)
  | trans h₁ _ ih₁ ih₂ => exact (ih₁ hd).trans (ih₂ (h₁.pairwise hd Ne.symm))

theorem lastKey_of_distinct (ops : List Op) (hd : ops.Pairwise (fun a b => a.key ≠ b.key)) (op : Op) (hm : op ∈ ops) :
    lastKey ops op.key = some op.handler := by
  have hp : List.Perm ops (ops.erase op ++ [op]) :=
    (List.perm_cons_erase hm).trans (List.perm_append_singleton ..).symm
  rw [lastKey_perm hp hd, lastKey_append]
  simp [lastKey]

/-- **C42, concurrent registration — the order of taking effect is irrelevant**: after earlier registrations
`pre`, a batch of concurrent registrations writing pairwise distinct table slots, and later registrations `post`,
every incoming stream is dispatched the same way whichever order `batch'` the batch took effect in. -/
theorem concurrent_order_irrelevant (pre batch batch' post : List Op)
    (hd : distinctKeys batch = true) (hp : List.Perm batch' batch) :
    (∀ kind id, dispatchChord (run (pre ++ batch' ++ post)) kind id
              = dispatchChord (run (pre ++ batch ++ post)) kind id) ∧
    (∀ kind, dispatchTunnel (run (pre ++ batch' ++ post)) kind
           = dispatchTunnel (run (pre ++ batch ++ post)) kind) := by
  have key : ∀ k, lastKey (pre ++ batch' ++ post) k = lastKey (pre ++ batch ++ post) k := by
    intro k; simp only [lastKey_append, lastKey_perm hp.symm (pairwise_of_distinctKeys batch hd) k]
  constructor
  · intro kind id; simp only [dispatchChord_lastKey, key]
  · intro kind; simp only [dispatchTunnel_lastKey, key]

theorem lastKey_batch (pre batch batch' : List Op) (hd : distinctKeys batch = true) (hp : List.Perm batch' batch)
    (op : Op) (hm : op ∈ batch) : lastKey (pre ++ batch') op.key = some op.handler := by
  have hi := pairwise_of_distinctKeys batch hd
  rw [lastKey_append, ← lastKey_perm hp.symm hi, lastKey_of_distinct batch hi op hm]
  rfl

/-- **C42, concurrent registration — every registration is effective**: the handler a virtual node registered
concurrently with other nodes' registrations (distinct slots) gets the streams for its (type, target) … -/
theorem concurrent_virtual_effective (pre batch batch' : List Op) (kind id h : Nat)
    (hd : distinctKeys batch = true) (hp : List.Perm batch' batch)
    (hm : Op.handleChord kind (some id) h ∈ batch) :
    dispatchChord (run (pre ++ batch')) kind id = some h := by
  rw [dispatchChord_lastKey, show lastKey _ (.virt kind id) = some h from lastKey_batch pre batch batch' hd hp _ hm]
  rfl

/-- … a concurrently registered node-wide handler gets the streams of its type whose target has no handler … -/
theorem concurrent_physical_effective (pre batch batch' : List Op) (kind id h : Nat)
    (hd : distinctKeys batch = true) (hp : List.Perm batch' batch)
    (hm : Op.handleChord kind none h ∈ batch) (hv : lastVirt (pre ++ batch') kind id = none) :
    dispatchChord (run (pre ++ batch')) kind id = some h := by
  rw [falls_back_to_physical _ _ _ hv, lastPhys_eq_lastKey]
  exact lastKey_batch pre batch batch' hd hp _ hm

/-- … and a concurrently registered client-stream handler gets the client streams of its type. -/
theorem concurrent_tunnel_effective (pre batch batch' : List Op) (kind h : Nat)
    (hd : distinctKeys batch = true) (hp : List.Perm batch' batch)
    (hm : Op.handleTunnel kind h ∈ batch) :
    dispatchTunnel (run (pre ++ batch')) kind = some h := by
  rw [dispatchTunnel_lastKey]
  exact lastKey_batch pre batch batch' hd hp _ hm

/-! non-vacuity: three virtual nodes + a node-wide and a client handler attach concurrently -/
def demoBatch : List Op := [.handleChord 1 (some 1000) 1, .handleChord 1 (some 1001) 2, .handleChord 2 (some 1000) 3,
  .handleChord 1 none 4, .handleTunnel 1 5]
example : distinctKeys demoBatch = true := by decide +kernel
example : distinctKeys (demoBatch ++ [.handleChord 1 (some 1001) 9]) = false := by decide +kernel
example : dispatchChord (run (demo ++ demoBatch.reverse)) 1 1001 = some 2
    ∧ dispatchChord (run (demo ++ demoBatch.reverse)) 1 5 = some 4
    ∧ dispatchTunnel (run (demo ++ demoBatch.reverse)) 1 = some 5 := by decide +kernel

end Specter.C42
