/-!
The models write a function as a chain of guards, `if c₁ then e₁ else if c₂ then e₂ else … result`.
`guard_eq_iff` peels one guard off an equation between such a chain and a value no guard returns; as a `simp` lemma
(with `reduceCtorEq` to see that `eᵢ` is not that value) it turns `f x = ok …` into the conjunction of the negated guards.
-/
namespace Specter

theorem guard_eq_iff {α : Sort _} {c : Prop} [Decidable c] {a x r : α} (h : a ≠ r) :
    (if c then a else x) = r ↔ ¬ c ∧ x = r := by
  split <;> simp [*]

end Specter
