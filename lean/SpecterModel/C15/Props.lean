import SpecterModel.C15.Model
/-!
# C15 — The retrying KV client retries only retryable failures, boundedly

Theorems over the model of retry-go's `DoWithData` under the wrapper's option list, for EVERY
result stream, every `retryIf`, every `attempts ≥ 1` (and the documented `attempts = 0` semantics).
-/
namespace Specter.C15

variable {ε : Type}

def noCancel : Nat → Bool := fun _ => false

def isRetryErr (retryIf : ε → Bool) : Res ε → Bool
  | .err e => retryIf e
  | .ok _ => false

def toOut : Res ε → Out ε
  | .ok v => .ok v
  | .err e => .err e

theorem specOut_eq (retryIf : ε → Bool) (attempts : Nat) (rs : Nat → Res ε) :
    specOut retryIf attempts rs = toOut (rs (specCalls retryIf attempts rs - 1)) := by
  unfold specOut toOut; rfl

theorem specCalls_le (retryIf : ε → Bool) (attempts : Nat) (rs : Nat → Res ε) :
    specCalls retryIf attempts rs ≤ attempts := by unfold specCalls; omega

theorem specCalls_pos (retryIf : ε → Bool) (attempts : Nat) (h : 1 ≤ attempts) (rs : Nat → Res ε) :
    1 ≤ specCalls retryIf attempts rs := by unfold specCalls; omega

section
variable (retryIf : ε → Bool) (rs : Nat → Res ε) (done : Nat → Bool)

/-! ### the oracle and the two loops in terms of `isRetryErr` and `toOut` -/

theorem lead_succ (b i : Nat) : leadingRetryable retryIf rs (b + 1) i =
    if isRetryErr retryIf (rs i) then 1 + leadingRetryable retryIf rs b (i + 1) else 0 := by
  rw [leadingRetryable]; cases rs i <;> rfl

theorem loopB_eq (i r : Nat) : loopB retryIf rs done i r =
    if !isRetryErr retryIf (rs i) then (i + 1, toOut (rs i)) else
    match r with
    | 0 => (i + 1, toOut (rs i))
    | r + 1 => if done (i + 1) then (i + 1, .ctx) else loopB retryIf rs done (i + 1) r := by
  rw [loopB]; cases rs i <;> rfl

theorem loopU_eq (fuel i : Nat) : loopU retryIf rs done (fuel + 1) i =
    if !isRetryErr retryIf (rs i) then some (i + 1, toOut (rs i))
    else if done (i + 1) then some (i + 1, .ctx) else loopU retryIf rs done fuel (i + 1) := by
  rw [loopU]; cases rs i <;> rfl

/-- indices are written `k + i`: at `i = 0`, where the property theorems use them, that is `k` by definition -/
theorem lead_spec (b i : Nat) :
    leadingRetryable retryIf rs b i ≤ b ∧
    (∀ k, k < leadingRetryable retryIf rs b i → isRetryErr retryIf (rs (k + i)) = true) ∧
    (leadingRetryable retryIf rs b i < b →
      isRetryErr retryIf (rs (leadingRetryable retryIf rs b i + i)) = false) := by
  induction b generalizing i with
  | zero => exact ⟨Nat.le_refl _, nofun, nofun⟩
  | succ b ih =>
    rw [lead_succ]
    cases hre : isRetryErr retryIf (rs i)
    · exact ⟨Nat.zero_le _, nofun, fun _ => by rwa [if_neg nofun, Nat.zero_add]⟩
    · obtain ⟨h1, h2, h3⟩ := ih (i + 1)
      simp only [if_true]
      refine ⟨by omega, fun k hk => ?_, fun hlt => ?_⟩
      · cases k with
        | zero => rw [Nat.zero_add]; exact hre
        | succ k => rw [Nat.add_right_comm]; exact h2 k (by omega)
      · rw [Nat.add_comm 1, Nat.add_right_comm]; exact h3 (by omega)

theorem lead_stop (b i j : Nat) (hj : j < b) (hpre : ∀ k, k < j → isRetryErr retryIf (rs (k + i)) = true)
    (hstop : isRetryErr retryIf (rs (j + i)) = false) : leadingRetryable retryIf rs b i = j := by
  obtain ⟨_, h2, h3⟩ := lead_spec retryIf rs b i
  rcases Nat.lt_trichotomy (leadingRetryable retryIf rs b i) j with h | h | h
  · exact absurd (hpre _ h) (by rw [h3 (by omega)]; nofun)
  · exact h
  · exact absurd (h2 j h) (by rw [hstop]; nofun)

theorem lead_all (b i : Nat) (hpre : ∀ k, k < b → isRetryErr retryIf (rs (k + i)) = true) :
    leadingRetryable retryIf rs b i = b := by
  obtain ⟨h1, _, h3⟩ := lead_spec retryIf rs b i
  rcases Nat.lt_or_eq_of_le h1 with h | h
  · exact absurd (hpre _ h) (by rw [h3 h]; nofun)
  · exact h

/-- The loop entered at call index `i` with `r` retries left; `c` counts the calls made in all. It runs through the
retryable errors in a row from `i` on (at most `r` of them are retried) and returns the result of the call after
them, or stops earlier, between two attempts, with the context's cause. -/
theorem loopB_cases (r i c : Nat) (o : Out ε) (h : loopB retryIf rs done i r = (c, o)) :
    (c = i + min (leadingRetryable retryIf rs (r + 1) i + 1) (r + 1) ∧ o = toOut (rs (c - 1))) ∨
    (i < c ∧ c < i + min (leadingRetryable retryIf rs (r + 1) i + 1) (r + 1) ∧ done c = true ∧ o = .ctx) := by
  induction r generalizing i with
  | zero =>  -- no retry left: call `i` is the last whatever it returns
    rw [loopB_eq, ite_self] at h
    cases h
    exact .inl ⟨by rw [lead_succ]; split <;> rfl, rfl⟩
  | succ r ih =>
    rw [loopB_eq] at h
    rw [lead_succ]
    cases hre : isRetryErr retryIf (rs i) <;>
      simp only [hre, Bool.not_false, Bool.not_true, if_true, if_false, Bool.false_eq_true] at h ⊢
    · cases h; exact .inl ⟨by omega, rfl⟩  -- terminal result at `i`
    · split at h
      · cases h; exact .inr ⟨by omega, by omega, ‹_›, rfl⟩  -- context ended before the next attempt
      · rcases ih (i + 1) h with ⟨h1, h2⟩ | ⟨h1, h2, h3, h4⟩  -- next attempt: the loop from `i + 1` with `r` retries
        · exact .inl ⟨by omega, h2⟩
        · exact .inr ⟨by omega, by omega, h3, h4⟩

theorem loopU_eq_loopB (r i : Nat) (h : leadingRetryable retryIf rs r i < r) :
    loopU retryIf rs done r i = some (loopB retryIf rs done i (r - 1)) := by
  induction r generalizing i with
  | zero => exact absurd h (Nat.not_lt_zero _)
  | succ r ih =>
    rw [lead_succ] at h
    rw [loopU_eq, Nat.add_sub_cancel, loopB_eq]
    cases hre : isRetryErr retryIf (rs i)
    · rfl
    · rw [hre, if_pos rfl] at h
      cases r with
      | zero => omega
      | succ r =>
        simp only [Bool.not_true, Bool.false_eq_true, if_false]
        split
        · rfl
        · exact ih (i + 1) (by omega)

end

theorem retryable_before_specCalls {retryIf : ε → Bool} {attempts : Nat} {rs : Nat → Res ε} {j : Nat}
    (h : j + 1 < specCalls retryIf attempts rs) : isRetryErr retryIf (rs j) = true :=
  (lead_spec retryIf rs attempts 0).2.1 j (by unfold specCalls at h; omega)

/-- **C15 under a context that may end**: whatever the context does, the caller gets either the
statement's result (exactly `specCalls` calls, first success or last error), or — only if the context
had ended in between attempts, before a further attempt was due — the context's cause. -/
theorem retryDo_cases (retryIf : ε → Bool) (attempts : Nat) (h : 1 ≤ attempts) (rs : Nat → Res ε)
    (done : Nat → Bool) (fuel c : Nat) (o : Out ε)
    (hr : retryDo retryIf attempts rs done fuel = some (c, o)) :
    (c = specCalls retryIf attempts rs ∧ o = specOut retryIf attempts rs) ∨
    (c < specCalls retryIf attempts rs ∧ done c = true ∧ o = .ctx) := by
  revert hr
  fun_cases retryDo retryIf attempts rs done fuel
  · rintro ⟨⟩  -- the context had ended before the first call
    exact .inr ⟨specCalls_pos retryIf attempts h rs, ‹_›, rfl⟩
  · exact absurd h (by omega)  -- `attempts = 0`
  · intro hr  -- the bounded loop
    have hc := loopB_cases retryIf rs done (attempts - 1) 0 c o (Option.some.inj hr)
    rw [show attempts - 1 + 1 = attempts by omega, Nat.zero_add] at hc
    rcases hc with ⟨h1, h2⟩ | ⟨_, h2, h3, h4⟩
    · exact .inl ⟨h1, by rw [specOut_eq, ← show c = specCalls retryIf attempts rs from h1]; exact h2⟩
    · exact .inr ⟨h2, h3, h4⟩

/-- **C15 main theorem**: for `attempts ≥ 1` and no cancellation, the wrapper makes exactly
`min (1 + #leading retryable errors) attempts` calls and returns the result of the last call made
(the first success, or the last error seen). -/
theorem retryDo_spec (retryIf : ε → Bool) (attempts : Nat) (h : 1 ≤ attempts) (rs : Nat → Res ε) (fuel : Nat) :
    retryDo retryIf attempts rs noCancel fuel =
      some (specCalls retryIf attempts rs, specOut retryIf attempts rs) := by
  have hr : retryDo retryIf attempts rs noCancel fuel = some (loopB retryIf rs noCancel 0 (attempts - 1)) := by
    rw [retryDo, if_neg nofun, if_neg (by omega)]
  rcases retryDo_cases retryIf attempts h rs noCancel fuel _ _ hr with ⟨h1, h2⟩ | ⟨_, h2, _⟩
  · rw [hr, ← h1, ← h2]
  · cases h2

theorem calls_le_specCalls {retryIf : ε → Bool} {attempts : Nat} (h : 1 ≤ attempts) {rs : Nat → Res ε}
    {done : Nat → Bool} {fuel c : Nat} {o : Out ε} (hr : retryDo retryIf attempts rs done fuel = some (c, o)) :
    c ≤ specCalls retryIf attempts rs :=
  (retryDo_cases retryIf attempts h rs done fuel c o hr).elim (fun h => Nat.le_of_eq h.1) (fun h => Nat.le_of_lt h.1)

/-- bounded even under arbitrary context cancellation: never more than `attempts` calls -/
theorem calls_le_attempts (retryIf : ε → Bool) (attempts : Nat) (h : 1 ≤ attempts) (rs : Nat → Res ε)
    (done : Nat → Bool) (fuel : Nat) (c : Nat) (o : Out ε)
    (hr : retryDo retryIf attempts rs done fuel = some (c, o)) : c ≤ attempts :=
  Nat.le_trans (calls_le_specCalls h hr) (specCalls_le retryIf attempts rs)

/-- a call is re-issued only after a retryable error: every call before the last one made returned a
retryable error (any context behaviour) -/
theorem reissued_only_after_retryable (retryIf : ε → Bool) (attempts : Nat) (h : 1 ≤ attempts)
    (rs : Nat → Res ε) (done : Nat → Bool) (fuel c : Nat) (o : Out ε)
    (hr : retryDo retryIf attempts rs done fuel = some (c, o)) :
    ∀ j, j + 1 < c → isRetryErr retryIf (rs j) = true :=
  fun _ hj => retryable_before_specCalls (Nat.lt_of_lt_of_le hj (calls_le_specCalls h hr))

/-! ### consequences in the statement's own words -/

/-- the first result that is not a retryable error (a success or a non-retryable error), if it comes
within `attempts` calls, ends the call sequence and is what the caller gets -/
theorem stops_at_first_terminal (retryIf : ε → Bool) (attempts : Nat) (rs : Nat → Res ε) (fuel j : Nat)
    (hj : j < attempts)
    (hpre : ∀ k, k < j → isRetryErr retryIf (rs k) = true)
    (hstop : isRetryErr retryIf (rs j) = false) :
    retryDo retryIf attempts rs noCancel fuel = some (j + 1, toOut (rs j)) := by
  rw [retryDo_spec retryIf attempts (by omega) rs fuel, specOut_eq]
  have : leadingRetryable retryIf rs attempts 0 = j :=
    lead_stop retryIf rs attempts 0 j hj hpre hstop
  simp [specCalls, this, show min (j + 1) attempts = j + 1 by omega]

/-- first success within `attempts` calls is returned -/
theorem first_success (retryIf : ε → Bool) (attempts : Nat) (rs : Nat → Res ε) (fuel j v : Nat)
    (hj : j < attempts) (hpre : ∀ k, k < j → isRetryErr retryIf (rs k) = true) (hok : rs j = .ok v) :
    retryDo retryIf attempts rs noCancel fuel = some (j + 1, .ok v) := by
  rw [stops_at_first_terminal retryIf attempts rs fuel j hj hpre (by rw [hok]; rfl), hok]; rfl

/-- a non-retryable error on the first call is returned after that single attempt -/
theorem nonretryable_single_attempt (retryIf : ε → Bool) (attempts : Nat) (h : 1 ≤ attempts)
    (rs : Nat → Res ε) (fuel : Nat) (e : ε) (h0 : rs 0 = .err e) (hn : retryIf e = false) :
    retryDo retryIf attempts rs noCancel fuel = some (1, .err e) := by
  rw [stops_at_first_terminal retryIf attempts rs fuel 0 h nofun (by rw [h0]; exact hn), h0]; rfl

/-- only retryable errors for `attempts` calls: exactly `attempts` calls, the LAST error is returned -/
theorem exhausted_returns_last_error (retryIf : ε → Bool) (attempts : Nat) (h : 1 ≤ attempts)
    (rs : Nat → Res ε) (fuel : Nat) (hall : ∀ k, k < attempts → isRetryErr retryIf (rs k) = true) :
    retryDo retryIf attempts rs noCancel fuel = some (attempts, toOut (rs (attempts - 1))) := by
  rw [retryDo_spec retryIf attempts h rs fuel, specOut_eq]
  have : leadingRetryable retryIf rs attempts 0 = attempts :=
    lead_all retryIf rs attempts 0 hall
  simp [specCalls, this]

/-- a context already cancelled: no call at all -/
theorem cancelled_before_no_call (retryIf : ε → Bool) (attempts : Nat) (rs : Nat → Res ε) (done : Nat → Bool)
    (fuel : Nat) (h : done 0 = true) : retryDo retryIf attempts rs done fuel = some (0, .ctx) := by
  simp [retryDo, h]

/-! ### the caller's context ends at some point (`done`): what the caller may get -/

/-- the executable form used by the driver's statement oracle -/
theorem retryDo_allowed (retryIf : ε → Bool) (attempts : Nat) (h : 1 ≤ attempts) (rs : Nat → Res ε)
    (done : Nat → Bool) (fuel c : Nat) (o : Out ε)
    (hr : retryDo retryIf attempts rs done fuel = some (c, o)) :
    (c, o) ∈ specAllowed retryIf attempts rs done := by
  unfold specAllowed
  rcases retryDo_cases retryIf attempts h rs done fuel c o hr with ⟨h1, h2⟩ | ⟨h1, h2, h3⟩
  · subst h1 h2; exact List.mem_cons_self
  · subst h3
    refine List.mem_cons_of_mem _ (List.mem_map.mpr ⟨c, ?_, rfl⟩)
    exact List.mem_filter.mpr ⟨List.mem_range.mpr h1, h2⟩

/-- with a context that never ends the allowed set is the single statement result -/
theorem specAllowed_noCancel (retryIf : ε → Bool) (attempts : Nat) (rs : Nat → Res ε) :
    specAllowed retryIf attempts rs noCancel =
      [(specCalls retryIf attempts rs, specOut retryIf attempts rs)] := by
  unfold specAllowed
  have : (List.range (specCalls retryIf attempts rs)).filter noCancel = [] := by
    apply List.filter_eq_nil_iff.mpr; intro a _; simp [noCancel]
  rw [this]; rfl

theorem terminal_never_masked {retryIf : ε → Bool} {attempts : Nat} (h : 1 ≤ attempts) {rs : Nat → Res ε}
    {done : Nat → Bool} {fuel c : Nat} {o : Out ε}
    (hr : retryDo retryIf attempts rs done fuel = some (c + 1, o)) (hterm : isRetryErr retryIf (rs c) = false) :
    o = toOut (rs c) := by
  rcases retryDo_cases retryIf attempts h rs done fuel (c + 1) o hr with ⟨h1, h2⟩ | ⟨h1, _, _⟩
  · rw [h2, specOut_eq, ← h1]; rfl
  · -- stopped by the context before the prescribed last call: call `c` returned a retryable error
    exact absurd (retryable_before_specCalls h1) (by rw [hterm]; nofun)

/-- a success obtained from the last call made is what the caller gets, even if the caller's context
ended while that call was in flight (any context behaviour) -/
theorem success_never_masked (retryIf : ε → Bool) (attempts : Nat) (h : 1 ≤ attempts) (rs : Nat → Res ε)
    (done : Nat → Bool) (fuel c v : Nat) (o : Out ε)
    (hr : retryDo retryIf attempts rs done fuel = some (c + 1, o)) (hok : rs c = .ok v) :
    o = .ok v := by
  rw [terminal_never_masked h hr (by rw [hok]; rfl), hok]; rfl

/-- likewise a non-retryable error of the last call made is returned as it is -/
theorem nonretryable_never_masked (retryIf : ε → Bool) (attempts : Nat) (h : 1 ≤ attempts) (rs : Nat → Res ε)
    (done : Nat → Bool) (fuel c : Nat) (e : ε) (o : Out ε)
    (hr : retryDo retryIf attempts rs done fuel = some (c + 1, o)) (he : rs c = .err e)
    (hn : retryIf e = false) : o = .err e := by
  rw [terminal_never_masked h hr (by rw [he]; exact hn), he]; rfl

/-! ### `attempts = 0` (library semantics: retry until success; OUTSIDE the property's quantifier) -/

/-- with `Attempts(0)` the number of calls is NOT bounded by any configured number: the wrapper keeps
calling through any number `j` of retryable errors until the first terminal result -/
theorem attempts_zero_unbounded (retryIf : ε → Bool) (rs : Nat → Res ε) (fuel j : Nat) (hf : j < fuel)
    (hpre : ∀ k, k < j → isRetryErr retryIf (rs k) = true)
    (hstop : isRetryErr retryIf (rs j) = false) :
    retryDo retryIf 0 rs noCancel fuel = some (j + 1, toOut (rs j)) := by
  have hl := lead_stop retryIf rs fuel 0 j hf hpre hstop
  -- the right side is what `attempts := fuel` returns; with that bound the bounded loop makes the same calls
  rw [← stops_at_first_terminal retryIf fuel rs 0 j hf hpre hstop]
  simp [retryDo, noCancel, loopU_eq_loopB retryIf rs _ fuel 0 (hl ▸ hf), Nat.ne_of_gt (Nat.zero_lt_of_lt hf)]

/-! ### non-vacuity -/
def demo : Nat → Res Bool
  | 0 => .err true | 1 => .err true | 2 => .ok 7 | _ => .err false
example : retryDo id 4 demo noCancel 0 = some (3, .ok 7) := by decide +kernel
example : retryDo id 2 demo noCancel 0 = some (2, .err true) := by decide +kernel
example : specCalls id 4 demo = 3 ∧ specOut id 4 demo = .ok 7 := by decide +kernel
example : retryDo id 4 (fun _ => .err false) noCancel 0 = some (1, .err false) := by decide +kernel
example : retryDo id 0 demo noCancel 5 = some (3, .ok 7) := by decide +kernel
example : retryDo id 4 demo (fun k => k ≥ 1) 0 = some (1, .ctx) := by decide +kernel
-- context ends during call 3 (the success): the success is returned; allowed set has the ctx outcomes too
example : retryDo id 4 demo (fun k => k ≥ 3) 0 = some (3, .ok 7) := by decide +kernel
example : specAllowed id 4 demo (fun k => decide (k ≥ 2)) = [(3, .ok 7), (2, .ctx)] := by decide +kernel
example : (3, Out.ctx) ∉ specAllowed id 4 demo (fun k => decide (k ≥ 2)) := by decide +kernel
-- hypotheses of stops_at_first_terminal are satisfiable with j = 2
example : (∀ k, k < 2 → isRetryErr id (demo k) = true) ∧ isRetryErr id (demo 2) = false := by decide +kernel

end Specter.C15
