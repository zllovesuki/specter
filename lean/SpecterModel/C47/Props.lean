import SpecterModel.C47.Model
/-!
# C47 — Listen address lists are normalized faithfully

`parse` (the code: loop with `seen`, duplicate test before validation, early return) equals `spec` (the
statement: trim, drop blanks, non-empty overrides replace base, error when nothing is left or when any
remaining address does not split / has a non-IP non-Fly host, otherwise the first occurrences in order, each
with the network of its family). Plus the facts that make `spec` say what the statement says: what `trim`
removes, what `firsts` keeps, which network each class gets.
-/
namespace Specter.C47

/-! ## trimming -/

theorem coalesce_eq (l : List Str) : coalesce l = (l.map trim).filter (· ≠ []) := by
  induction l with
  | nil => rfl
  | cons a rest ih =>
    simp only [coalesce, List.map_cons, List.filter_cons]
    by_cases h : trim a = [] <;> simp [h, ih]

/-- `trim s` is `s` minus a prefix and a suffix made of space characters only. -/
theorem trim_removes_only_blanks (s : Str) :
    ∃ pre suf, s = pre ++ trim s ++ suf ∧ (∀ c ∈ pre, isSpace c = true) ∧ (∀ c ∈ suf, isSpace c = true) := by
  refine ⟨s.takeWhile isSpace, (((s.dropWhile isSpace).reverse).takeWhile isSpace).reverse, ?_,
    fun c hc => List.all_eq_true.mp List.all_takeWhile c hc,
    fun c hc => List.all_eq_true.mp List.all_takeWhile c (List.mem_reverse.mp hc)⟩
  unfold trim trimLeft
  rw [List.append_assoc, ← List.reverse_append, List.takeWhile_append_dropWhile, List.reverse_reverse,
    List.takeWhile_append_dropWhile]

/-- A non-empty trimmed string neither starts nor ends with a space character. -/
theorem trim_is_tight (s : Str) (c : Char) :
    ((trim s).head? = some c → isSpace c = false) ∧ ((trim s).getLast? = some c → isSpace c = false) := by
  constructor
  · intro h
    -- head of the reversed suffix-trimmed string = last of a non-empty suffix of the left-trimmed string
    unfold trim trimLeft at h
    rw [List.head?_reverse] at h
    have hsuf : ((s.dropWhile isSpace).reverse.dropWhile isSpace) <:+ (s.dropWhile isSpace).reverse :=
      List.dropWhile_suffix _
    obtain ⟨t, ht⟩ := hsuf
    have hl : (s.dropWhile isSpace).reverse.getLast? = some c := by
      rw [← ht, List.getLast?_append, h]; rfl
    rw [List.getLast?_reverse] at hl
    simpa [hl] using List.head?_dropWhile_not isSpace s
  · intro h
    unfold trim trimLeft at h
    rw [List.getLast?_reverse] at h
    simpa [h] using List.head?_dropWhile_not isSpace (s.dropWhile isSpace).reverse

/-- The list that is parsed is the trimmed overrides when any survive trimming,
else the trimmed base list. -/
theorem override_replaces_base (base ovr : List Str) :
    effective base ovr = if (ovr.map trim).filter (· ≠ []) ≠ [] then (ovr.map trim).filter (· ≠ [])
                         else (base.map trim).filter (· ≠ []) := by
  rw [effective, coalesce_eq, coalesce_eq]
  generalize (ovr.map trim).filter (· ≠ []) = v
  cases v <;> rfl

/-! ## duplicates: first occurrences, in order -/

theorem firsts_mem [DecidableEq α] (seen l : List α) (x : α) : x ∈ firsts seen l ↔ x ∈ l ∧ x ∉ seen := by
  fun_induction firsts seen l <;> grind

theorem firsts_nodup [DecidableEq α] (seen l : List α) : (firsts seen l).Nodup := by
  fun_induction firsts seen l <;> simp_all [firsts_mem]

theorem firsts_sublist [DecidableEq α] (seen l : List α) : (firsts seen l).Sublist l := by
  fun_induction firsts seen l <;> simp_all

theorem firsts_congr [DecidableEq α] (s₁ s₂ l : List α) (h : ∀ x, x ∈ s₁ ↔ x ∈ s₂) :
    firsts s₁ l = firsts s₂ l := by
  induction l generalizing s₁ s₂ with
  | nil => rfl
  | cons a l ih => simp only [firsts, h a, ih (a :: s₁) (a :: s₂) (by simp [h]), ih s₁ s₂ h]

/-- one equation for both cases: an element already seen may be recorded again -/
theorem firsts_cons [DecidableEq α] (seen l : List α) (a : α) :
    firsts seen (a :: l) = (if a ∈ seen then [] else [a]) ++ firsts (a :: seen) l := by
  by_cases h : a ∈ seen
  · simpa [firsts, h] using firsts_congr seen (a :: seen) l (by simp [h])
  · simp [firsts, h]

/-- The order clause of C47 "dedup keeps first", for any `seen`: what has been kept for a prefix of the input
stays, in place, whatever follows; the continuation only contributes addresses not seen in the prefix. -/
theorem firsts_append [DecidableEq α] (seen l₁ l₂ : List α) :
    firsts seen (l₁ ++ l₂) = firsts seen l₁ ++ firsts (l₁ ++ seen) l₂ := by
  induction l₁ generalizing seen with
  | nil => rfl
  | cons a l ih =>
    rw [List.cons_append, firsts_cons, ih, firsts_cons seen l, List.append_assoc,
      firsts_congr (l ++ a :: seen) (a :: l ++ seen) l₂ (by simp [or_left_comm])]

/-- The kept list has no duplicates, contains exactly the input addresses, is a
sub-sequence of the input, and every address sits where its FIRST occurrence was: for any split of the input
at a first occurrence, the output is (output for the part before) ++ that address ++ (rest). -/
theorem dedup_keeps_first [DecidableEq α] (l : List α) :
    (firsts [] l).Nodup ∧ (∀ x, x ∈ firsts [] l ↔ x ∈ l) ∧ (firsts [] l).Sublist l ∧
    (∀ pre a suf, l = pre ++ a :: suf → a ∉ pre →
      firsts [] l = firsts [] pre ++ a :: firsts (a :: pre) suf) := by
  refine ⟨firsts_nodup _ _, fun x => by simp [firsts_mem], firsts_sublist _ _, ?_⟩
  rintro pre a suf rfl ha
  simp [firsts_append, firsts, ha]

/-! ## the loop is the spec -/

def valid (o : Oracle) (a : Str) : Prop := (o a).1 ≠ .bad ∧ (o a).1 ≠ .other

theorem invalid_false_iff (o : Oracle) (a : Str) : invalid o a = false ↔ valid o a := by
  unfold invalid valid; cases (o a).1 <;> simp

theorem loop_spec (proto : Str) (o : Oracle) (seen l : List Str) (out : List Address)
    (hseen : ∀ a ∈ seen, valid o a) :
    loop proto o seen l out =
      match l.find? (invalid o) with
      | some a => .error (if (o a).1 = .bad then .split else .host)
      | none => .ok (out ++ (firsts seen l).map (mkAddr proto o)) := by
  fun_induction loop proto o seen l out with
  | case1 => simp [firsts]
  | case2 seen a rest out h ih =>           -- `a ∈ seen`
    -- the code skips a duplicate before validating it: no error is missed, only valid addresses enter `seen`
    rw [ih hseen, List.find?_cons, (invalid_false_iff o a).mpr (hseen a h), firsts, if_pos h]
  | case3 seen a rest out h hc => simp [invalid, hc]      -- `a` does not split
  | case4 seen a rest out h hc => simp [invalid, hc]      -- `a` has another host
  | case5 seen a rest out h h1 h2 ih =>     -- `a` is new and valid
    have hv : valid o a := ⟨h1, h2⟩
    rw [ih (List.forall_mem_cons.mpr ⟨hv, hseen⟩), List.find?_cons, (invalid_false_iff o a).mpr hv, firsts,
      if_neg h]
    cases rest.find? (invalid o) <;> simp

/-- The code's loop computes exactly the statement-level function, for every input list,
every protocol string and every behaviour of the address-parsing library. -/
theorem parse_eq_spec (proto : Str) (o : Oracle) (base ovr : List Str) :
    parse proto o base ovr = spec proto o base ovr := by
  unfold parse spec
  simp only [← override_replaces_base]
  generalize effective base ovr = eff
  by_cases he : eff = []
  · simp [he]
  · rw [if_neg (by simpa using he), if_neg he, loop_spec proto o [] eff [] nofun]
    cases eff.find? (invalid o) <;> simp

theorem find?_invalid (o : Oracle) (l : List Str) : l.find? (invalid o) = none ↔ ∀ a ∈ l, valid o a := by
  simp [← invalid_false_iff]

theorem parse_ok_iff (proto : Str) (o : Oracle) (base ovr : List Str) (r : List Address) :
    parse proto o base ovr = .ok r ↔
      effective base ovr ≠ [] ∧ (∀ a ∈ effective base ovr, valid o a) ∧
        r = (firsts [] (effective base ovr)).map (mkAddr proto o) := by
  unfold parse
  generalize effective base ovr = eff
  by_cases he : eff = []
  · simp [he]
  · rw [if_neg (by simpa using he), loop_spec proto o [] eff [] nofun, ← find?_invalid]
    cases eff.find? (invalid o) <;> simp [he, eq_comm]

/-- Parsing succeeds exactly when something is left after trimming and every
remaining address splits and has an empty, IPv4, IPv6 or Fly host; the result then is the de-duplicated list. -/
theorem rejects_non_ip_hosts (proto : Str) (o : Oracle) (base ovr : List Str) :
    (∃ r, parse proto o base ovr = .ok r) ↔
      effective base ovr ≠ [] ∧ ∀ a ∈ effective base ovr, valid o a := by
  simp only [parse_ok_iff, exists_and_left, exists_eq, and_true]

/-- On success every returned entry is one of the remaining addresses, carries the
host the library split off, and its network is proto+"4" for an IPv4 host and for the Fly host, proto+"6" for
an IPv6 host, and the bare proto for an empty host; and the addresses are the first occurrences in order. -/
theorem network_by_family (proto : Str) (o : Oracle) (base ovr : List Str) (r : List Address)
    (h : parse proto o base ovr = .ok r) :
    r.map (·.address) = firsts [] (effective base ovr) ∧
    ∀ x ∈ r, x.address ∈ effective base ovr ∧ x.host = (o x.address).2 ∧
      (((o x.address).1 = .v4 ∨ (o x.address).1 = .fly) → x.network = proto ++ ['4'] ∧ x.version = .v4) ∧
      ((o x.address).1 = .v6 → x.network = proto ++ ['6'] ∧ x.version = .v6) ∧
      ((o x.address).1 = .empty → x.network = proto ∧ x.version = .any) := by
  obtain ⟨-, -, rfl⟩ := (parse_ok_iff proto o base ovr r).mp h
  refine ⟨by simp [List.map_map, Function.comp_def, mkAddr], fun x hx => ?_⟩
  obtain ⟨a, ha, rfl⟩ := List.mem_map.mp hx
  refine ⟨((firsts_mem [] _ a).mp ha).1, rfl, ?_, ?_, ?_⟩
  · rintro (h1 | h1) <;> simp [mkAddr, show (o a).1 = _ from h1, versionOf, networkFor]
  · intro h1; simp [mkAddr, show (o a).1 = _ from h1, versionOf, networkFor]
  · intro h1; simp [mkAddr, show (o a).1 = _ from h1, versionOf, networkFor]

/-! ### non-vacuity -/
section NonVacuity
deriving instance DecidableEq for Except
def sp : Str := " \t1.2.3.4:80 ".toList
def a4 : Str := "1.2.3.4:80".toList
def a6 : Str := "[::1]:80".toList
def fl : Str := "fly-global-services:80".toList
def hn : Str := "example.com:80".toList
def orc : Oracle := fun a =>
  if a = a4 then (.v4, "1.2.3.4".toList) else if a = a6 then (.v6, "::1".toList)
  else if a = fl then (.fly, "fly-global-services".toList) else if a = hn then (.other, "example.com".toList)
  else (.bad, [])

-- Test vectors, evaluated by the kernel once `String.toList_ofList` has spelled the literals out (why: the note
-- above the test vectors of `C48/Props.lean`).
example : trim sp = a4 := by
  unfold sp a4
  repeat rw [String.toList_ofList]
  decide +kernel
example : parse "udp".toList orc [sp, a6, [' '], a4, fl, a6] [] =
    .ok [⟨a4, "1.2.3.4".toList, "udp4".toList, .v4⟩, ⟨a6, "::1".toList, "udp6".toList, .v6⟩,
         ⟨fl, "fly-global-services".toList, "udp4".toList, .v4⟩] := by
  unfold orc sp a4 a6 fl hn
  repeat rw [String.toList_ofList]
  decide +kernel
example : parse "udp".toList orc [a4] [[' '], a6] = .ok [⟨a6, "::1".toList, "udp6".toList, .v6⟩] := by
  unfold orc a4 a6 fl hn
  repeat rw [String.toList_ofList]
  decide +kernel
example : parse "udp".toList orc [a4, hn] [] = .error .host ∧ parse "udp".toList orc [[' ']] [[]] = .error .none_ := by
  unfold orc a4 a6 fl hn
  repeat rw [String.toList_ofList]
  decide +kernel
end NonVacuity

end Specter.C47
