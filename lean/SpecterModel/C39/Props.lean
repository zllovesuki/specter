import SpecterModel.C39.Lemmas
/-!
# C39 — the in-memory stream pipe is a faithful byte stream

Theorems about the model of `util/bufconn/bufconn.go` in `Model.lean` (ring buffer exactly as coded +
small-step layer with the two condition variables), for ALL capacities ≥ 1 and ALL event sequences
(= all write chunkings, read sizes and reader/writer interleavings at mutex granularity).
`cap = 0` is a stated exclusion (`Write` of a non-empty slice would spin; the transport uses 8192).
-/
namespace Specter.C39

/-- The global invariant of the small-step system (with ghost trace). -/
structure SInv (c : Nat) (t : Trace) : Prop where
  inv : Inv t.s.p
  cap_eq : t.s.p.cap = c
  /-- conservation: delivered ++ buffered = copied in -/
  conserve : t.got ++ t.s.p.abs = t.put
  /-- a reader parked in `rwait` has nothing to return: no lost wake-up -/
  rwait : ∀ n, t.s.rt = .waiting n →
    t.s.p.abs = [] ∧ t.s.p.closed = false ∧ t.s.p.writeClosed = false ∧ t.s.p.rtimedout = false
  /-- a writer parked in `wwait` cannot make progress: no lost wake-up -/
  wwait : ∀ rest n, t.s.wt = .waiting rest n →
    rest ≠ [] ∧ t.s.p.full = true ∧ t.s.p.closed = false ∧ t.s.p.writeClosed = false ∧ t.s.p.wtimedout = false
  /-- a writer that was woken still has bytes to write -/
  wwoken : ∀ rest n, t.s.wt = .woken rest n → rest ≠ []

theorem wakeR_not_waiting (t : RTh) (n : Nat) : wakeR t ≠ .waiting n := by cases t <;> simp [wakeR]
theorem wakeW_not_waiting (t : WTh) (r : List Nat) (n : Nat) : wakeW t ≠ .waiting r n := by cases t <;> simp [wakeW]
theorem wakeW_woken (t : WTh) (r : List Nat) (n : Nat) (h : wakeW t = .woken r n) : t = .waiting r n ∨ t = .woken r n := by
  cases t <;> simp_all [wakeW]
theorem wwoken_wake {c : Nat} (t : Trace) (h : SInv c t) (r : List Nat) (n : Nat) (hw : wakeW t.s.wt = .woken r n) : r ≠ [] := by
  rcases wakeW_woken _ _ _ hw with a | a
  · exact (h.wwait r n a).1
  · exact h.wwoken r n a

theorem sinv_rAttempt {c : Nat} (t : Trace) (n : Nat) (h : SInv c t) :
    SInv c { s := (rAttempt t.s n).1, got := t.got ++ (rAttempt t.s n).2.2.1, put := t.put ++ (rAttempt t.s n).2.2.2 } := by
  have rs := readStep_spec t.s.p n h.inv
  unfold rAttempt
  unfold ReadSpec at rs
  generalize readStep t.s.p n = q at rs
  obtain ⟨qp, qo, qs⟩ := q
  have hc0 : t.got ++ [] ++ t.s.p.abs = t.put ++ [] := by rw [List.append_nil, List.append_nil]; exact h.conserve
  cases qo <;> dsimp only at rs ⊢
  case data d =>
    obtain ⟨i, f, m2, m5, _⟩ := rs
    refine ⟨i, f.cap.trans h.cap_eq, ?_, nofun, fun rest k hk => ?_, fun rest k hk => ?_⟩
    · rw [List.append_nil, List.append_assoc, ← m2]; exact h.conserve
    · -- a writer still parked was not signalled, so the pipe was not full
      cases qs
      · exact absurd (h.wwait rest k hk).2.1 (m5 ▸ Bool.false_ne_true)
      · exact absurd hk (wakeW_not_waiting _ _ _)
    · cases qs
      · exact h.wwoken rest k hk
      · exact wwoken_wake t h rest k hk
  case block =>
    obtain ⟨rfl, rfl, b1, b2, b3, b4⟩ := rs
    exact ⟨h.inv, h.cap_eq, hc0, fun _ _ => ⟨b2, b1, b3, b4⟩, h.wwait, h.wwoken⟩
  all_goals
    obtain ⟨rfl, rfl, _⟩ := rs
    exact ⟨h.inv, h.cap_eq, hc0, nofun, h.wwait, h.wwoken⟩

theorem sinv_wFinish {c : Nat} (t : Trace) (bs : List Nat) (n : Nat) (q : Pipe × WOut × Bool × List Nat)
    (h : SInv c t) (ws : WriteSpec t.s.p bs n false [] q) :
    SInv c { s := (wFinish t.s q).1, got := t.got ++ (wFinish t.s q).2.2.1, put := t.put ++ (wFinish t.s q).2.2.2 } := by
  obtain ⟨k, w⟩ := ws
  have hcap : q.1.cap = c := w.flags.cap.trans h.cap_eq
  have hcons : t.got ++ [] ++ q.1.abs = t.put ++ q.2.2.2 := by
    rw [w.abs, w.copied, ← h.conserve, List.append_nil, List.nil_append, List.append_assoc]
  have hrw : ∀ m, (if q.2.2.1 = true then wakeR t.s.rt else t.s.rt) = RTh.waiting m →
      q.1.abs = [] ∧ q.1.closed = false ∧ q.1.writeClosed = false ∧ q.1.rtimedout = false := by
    intro m hm
    have sg := w.signal
    cases hs : q.2.2.1 <;> rw [hs] at hm sg
    · -- no signal: the reader was parked on an empty pipe, so nothing was copied
      obtain ⟨r1, r2, r3, r4⟩ := h.rwait m hm
      rw [(empty_iff _ h.inv).mpr r1] at sg
      have hk0 : k = 0 := by simpa using sg.symm
      subst hk0
      exact ⟨by rw [w.abs, r1]; rfl, w.flags.closed.trans r2, w.flags.writeClosed.trans r3,
        w.flags.rtimedout.trans r4⟩
    · exact absurd hm (wakeR_not_waiting _ _)
  fun_cases wFinish t.s q
  case case1 rest n' hq =>   -- the call parks
    have m := w.answer
    rw [hq] at m
    obtain ⟨rfl, m2, _, m4⟩ := m
    refine ⟨w.inv, hcap, hcons, hrw, fun r' n' hw => ?_, nofun⟩
    obtain ⟨rfl, _⟩ := WTh.waiting.inj hw
    exact ⟨m2, m4⟩
  case case2 => exact ⟨w.inv, hcap, hcons, hrw, nofun, nofun⟩

/-- A step that moves no data: the buffer is untouched; each thread is signalled, or is as it was and none of the
flags its wait condition mentions was raised. -/
structure FlagStep (s s' : Sys) : Prop where
  data : s'.p.arr = s.p.arr ∧ s'.p.len = s.p.len ∧ s'.p.w = s.p.w ∧ s'.p.r = s.p.r
  rt : s'.rt = wakeR s.rt ∨ (s'.rt = s.rt ∧ s'.p.closed = s.p.closed ∧ s'.p.writeClosed = s.p.writeClosed ∧
    (s'.p.rtimedout = s.p.rtimedout ∨ s'.p.rtimedout = false))
  wt : s'.wt = wakeW s.wt ∨ (s'.wt = s.wt ∧ s'.p.closed = s.p.closed ∧ s'.p.writeClosed = s.p.writeClosed ∧
    (s'.p.wtimedout = s.p.wtimedout ∨ s'.p.wtimedout = false))

theorem FlagStep.refl (s : Sys) : FlagStep s s :=
  ⟨⟨rfl, rfl, rfl, rfl⟩, .inr ⟨rfl, rfl, rfl, .inl rfl⟩, .inr ⟨rfl, rfl, rfl, .inl rfl⟩⟩

theorem sinv_flag {c : Nat} (t : Trace) (s' : Sys) (h : SInv c t) (fs : FlagStep t.s s') :
    SInv c { s := s', got := t.got ++ [], put := t.put ++ [] } := by
  obtain ⟨d1, d2, d3⟩ := view_of_data_eq t.s.p s'.p fs.data
  refine ⟨d1 h.inv, (congrArg List.length fs.data.1).trans h.cap_eq, ?_, fun n hn => ?_, fun r n hn => ?_,
    fun r n hn => ?_⟩
  · rw [List.append_nil, List.append_nil, d2]; exact h.conserve
  · rcases fs.rt with e | ⟨e, c1, c2, c3⟩
    · exact absurd (e ▸ hn) (wakeR_not_waiting _ _)
    · obtain ⟨r1, r2, r3, r4⟩ := h.rwait n (e ▸ hn)
      exact ⟨d2.trans r1, c1.trans r2, c2.trans r3, c3.elim (·.trans r4) id⟩
  · rcases fs.wt with e | ⟨e, c1, c2, c3⟩
    · exact absurd (e ▸ hn) (wakeW_not_waiting _ _ _)
    · obtain ⟨r0, r1, r2, r3, r4⟩ := h.wwait r n (e ▸ hn)
      exact ⟨r0, d3.trans r1, c1.trans r2, c2.trans r3, c3.elim (·.trans r4) id⟩
  · rcases fs.wt with e | ⟨e, _⟩
    · exact wwoken_wake t h r n (e ▸ hn)
    · exact h.wwoken r n (e ▸ hn)

/-- The three kinds of atomic step from a state of the invariant; the first: `Close`, `closeWrite`, the timers, the
deadline resets, every disabled event; the last: a `Write` from its entry or after `wwait.Wait()`. -/
theorem step_cases {c : Nat} (t : Trace) (h : SInv c t) (e : Ev) :
    (∃ s' o, step t.s e = (s', o, [], []) ∧ (o = .done ∨ o = .na) ∧ FlagStep t.s s') ∨
    (∃ n, step t.s e = rAttempt t.s n) ∨
    (∃ bs n q, step t.s e = wFinish t.s q ∧ WriteSpec t.s.p bs n false [] q ∧ ∀ bs', e = .write bs' → bs' = bs ∧ n = 0) := by
  fun_cases step t.s e
  -- `read`, `rresume`, `write`, `wresume`: enabled, then disabled
  case case1 n _ => exact .inr (.inl ⟨n, rfl⟩)
  case case3 n _ => exact .inr (.inl ⟨n, rfl⟩)
  case case5 bs _ =>
    exact .inr (.inr ⟨bs, 0, _, rfl, writeStart_spec t.s.p bs h.inv, fun _ hb => ⟨(Ev.write.inj hb).symm, rfl⟩⟩)
  case case7 rest n hw =>
    exact .inr (.inr ⟨rest, n, _, rfl, writeResume_spec t.s.p rest n h.inv (h.wwoken rest n hw), nofun⟩)
  case case2 | case4 | case6 | case8 => exact .inl ⟨t.s, _, rfl, .inr rfl, .refl t.s⟩
  -- `close`, `closeWrite`
  case case9 | case10 => exact .inl ⟨_, _, rfl, .inl rfl, ⟨rfl, rfl, rfl, rfl⟩, .inl rfl, .inl rfl⟩
  case case11 =>   -- `rtimer`
    exact .inl ⟨_, _, rfl, .inl rfl, ⟨rfl, rfl, rfl, rfl⟩, .inl rfl, .inr ⟨rfl, rfl, rfl, .inl rfl⟩⟩
  case case12 =>   -- `wtimer`
    exact .inl ⟨_, _, rfl, .inl rfl, ⟨rfl, rfl, rfl, rfl⟩, .inr ⟨rfl, rfl, rfl, .inl rfl⟩, .inl rfl⟩
  case case13 =>   -- `rclear`
    exact .inl ⟨_, _, rfl, .inl rfl, ⟨rfl, rfl, rfl, rfl⟩,
      .inr ⟨rfl, rfl, rfl, .inr rfl⟩, .inr ⟨rfl, rfl, rfl, .inl rfl⟩⟩
  case case14 =>   -- `wclear`
    exact .inl ⟨_, _, rfl, .inl rfl, ⟨rfl, rfl, rfl, rfl⟩,
      .inr ⟨rfl, rfl, rfl, .inl rfl⟩, .inr ⟨rfl, rfl, rfl, .inr rfl⟩⟩

theorem sinv_step {c : Nat} (t : Trace) (e : Ev) (h : SInv c t) : SInv c (t.step e) := by
  show SInv c { s := (step t.s e).1, got := t.got ++ (step t.s e).2.2.1, put := t.put ++ (step t.s e).2.2.2 }
  rcases step_cases t h e with ⟨s', o, he, _, fs⟩ | ⟨n, he⟩ | ⟨bs, n, q, he, ws, _⟩ <;> rw [he]
  · exact sinv_flag t s' h fs
  · exact sinv_rAttempt t n h
  · exact sinv_wFinish t bs n q h ws

theorem sinv_init (sz : Nat) (h : 0 < sz) : SInv sz { s := init sz } :=
  ⟨inv_new sz h, List.length_replicate, abs_new sz, nofun, nofun, nofun⟩

/-- The invariant holds in every reachable state, for every capacity ≥ 1 and every event sequence. -/
theorem sinv_run (sz : Nat) (evs : List Ev) (h : 0 < sz) : SInv sz (run sz evs) :=
  List.foldlRecOn evs Trace.step (sinv_init sz h) fun t ht e _ => sinv_step t e ht

theorem rAttempt_out (s : Sys) (n : Nat) : (rAttempt s n).2.1 = .r (readStep s.p n).2.1 := by
  fun_cases rAttempt s n
  case case1 hq | case2 hq => exact congrArg Out.r hq.symm
  case case3 => rfl

theorem wFinish_out (s : Sys) (q : Pipe × WOut × Bool × List Nat) : (wFinish s q).2.1 = .w q.2.1 := by
  fun_cases wFinish s q
  case case1 hq => exact congrArg Out.w hq.symm
  case case2 => rfl

theorem step_read_out {c : Nat} (t : Trace) (hi : SInv c t) (e : Ev) (o : ROut) (h : (step t.s e).2.1 = .r o) :
    ∃ n q, ReadSpec t.s.p n q ∧ q.2.1 = o := by
  rcases step_cases t hi e with ⟨_, _, he, ho, _⟩ | ⟨n, he⟩ | ⟨_, _, _, he, _⟩
  · rw [he] at h; rcases ho with rfl | rfl <;> contradiction
  · rw [he, rAttempt_out] at h; exact ⟨n, _, readStep_spec t.s.p n hi.inv, Out.r.inj h⟩
  · rw [he, wFinish_out] at h; contradiction

theorem step_write_out {c : Nat} (t : Trace) (hi : SInv c t) (e : Ev) (o : WOut) (h : (step t.s e).2.1 = .w o) :
    ∃ bs n q, WriteSpec t.s.p bs n false [] q ∧ q.2.1 = o ∧ ∀ bs', e = .write bs' → bs' = bs ∧ n = 0 := by
  rcases step_cases t hi e with ⟨_, _, he, ho, _⟩ | ⟨n, he⟩ | ⟨bs, n, q, he, ws, hb⟩
  · rw [he] at h; rcases ho with rfl | rfl <;> contradiction
  · rw [he, rAttempt_out] at h; contradiction
  · rw [he, wFinish_out] at h; exact ⟨bs, n, q, ws, Out.w.inj h, hb⟩

/-! ## The property theorems -/

/-- **Refinement to a bounded FIFO / conservation.** After any event sequence: what the reader got,
followed by the buffered content, is exactly what writes copied in — no loss, duplication or reordering —
and the buffered content never exceeds the capacity. -/
theorem stream_faithful (sz : Nat) (evs : List Ev) (h : 0 < sz) :
    (run sz evs).got ++ (run sz evs).s.p.abs = (run sz evs).put ∧ (run sz evs).s.p.abs.length ≤ sz := by
  have hi := sinv_run sz evs h
  exact ⟨hi.conserve, Nat.le_trans (abs_length_le _ hi.inv) (Nat.le_of_eq hi.cap_eq)⟩

/-- The reader always holds a prefix of what was written. -/
theorem reads_prefix_of_writes (sz : Nat) (evs : List Ev) (h : 0 < sz) :
    (run sz evs).got <+: (run sz evs).put :=
  ⟨_, (stream_faithful sz evs h).1⟩

/-- **End-of-stream only after drain.** Whenever a read answers EOF, the writer side is closed and the
reader has received every byte that was ever copied into the pipe. -/
theorem eof_only_after_drain (sz : Nat) (evs : List Ev) (e : Ev) (h : 0 < sz)
    (he : (step (run sz evs).s e).2.1 = .r .eof) :
    (run sz evs).got = (run sz evs).put ∧ (run sz evs).s.p.writeClosed = true := by
  have hi := sinv_run sz evs h
  obtain ⟨n, q, rs, hq⟩ := step_read_out _ hi _ _ he
  unfold ReadSpec at rs
  rw [hq] at rs
  obtain ⟨_, _, _, ha, hw⟩ := rs
  have hc := hi.conserve
  rw [ha, List.append_nil] at hc
  exact ⟨hc, hw⟩

/-- **Reads and writes on a closed end fail.** In any reachable state with `closed` set, every read
attempt (fresh or resumed) answers `ErrClosedPipe` and so does every write attempt; and once the write side
is closed (`closeWrite`, i.e. the peer `conn` was closed) a non-empty `Write` answers `ErrClosedPipe`. -/
theorem closed_ops_fail (sz : Nat) (evs : List Ev) (e : Ev) (h : 0 < sz) :
    ((run sz evs).s.p.closed = true →
      (∀ o, (step (run sz evs).s e).2.1 = .r o → o = .errClosed) ∧
      (∀ o, (step (run sz evs).s e).2.1 = .w o → o = .errClosed)) ∧
    ((run sz evs).s.p.writeClosed = true → ∀ bs o, e = .write bs → bs ≠ [] →
      (step (run sz evs).s e).2.1 = .w o → o = .errClosed) := by
  have hi := sinv_run sz evs h
  refine ⟨fun hc => ⟨fun o ho => ?_, fun o ho => ?_⟩, fun hw bs o he hne ho => ?_⟩
  · obtain ⟨n, q, rs, rfl⟩ := step_read_out _ hi _ _ ho
    exact rs.answers.closed hc
  · obtain ⟨bs, n, q, ws, rfl, _⟩ := step_write_out _ hi _ _ ho
    exact ws.answers.closed hc
  · obtain ⟨bs', n, q, ws, rfl, hb⟩ := step_write_out _ hi _ _ ho
    obtain ⟨rfl, _⟩ := hb bs he
    exact ws.answers.writeClosed hne hw

/-- **No lost wake-up** (one reader, one writer): in every reachable state a reader parked in `rwait`
really has nothing to return (buffer empty, neither closed, nor write-closed, nor timed out), and a writer
parked in `wwait` really cannot proceed (buffer full, not closed, not write-closed, not timed out). -/
theorem no_lost_wakeup (sz : Nat) (evs : List Ev) (h : 0 < sz) :
    (∀ n, (run sz evs).s.rt = .waiting n →
      (run sz evs).s.p.abs = [] ∧ (run sz evs).s.p.closed = false ∧
      (run sz evs).s.p.writeClosed = false ∧ (run sz evs).s.p.rtimedout = false) ∧
    (∀ rest n, (run sz evs).s.wt = .waiting rest n →
      rest ≠ [] ∧ (run sz evs).s.p.abs.length = sz ∧ (run sz evs).s.p.closed = false ∧
      (run sz evs).s.p.writeClosed = false ∧ (run sz evs).s.p.wtimedout = false) := by
  have hi := sinv_run sz evs h
  refine ⟨hi.rwait, ?_⟩
  intro rest n hw
  obtain ⟨a, b, c⟩ := hi.wwait rest n hw
  exact ⟨a, ((full_iff _ hi.inv).mp b).trans hi.cap_eq, c⟩

/-- **No call blocks forever once an end closes.** In every reachable state where the pipe is closed
(reader side `Close`) or write-closed (writer side closed): nobody is parked in a condition variable
(they have been woken) and no read or write attempt — fresh or resumed — parks again. -/
theorem close_unblocks (sz : Nat) (evs : List Ev) (h : 0 < sz)
    (hc : (run sz evs).s.p.closed = true ∨ (run sz evs).s.p.writeClosed = true) :
    (∀ n, (run sz evs).s.rt ≠ .waiting n) ∧ (∀ r n, (run sz evs).s.wt ≠ .waiting r n) ∧
    (∀ e, (step (run sz evs).s e).2.1 ≠ .r .block ∧ ∀ r n, (step (run sz evs).s e).2.1 ≠ .w (.block r n)) := by
  have hi := sinv_run sz evs h
  have key : ¬ ((run sz evs).s.p.closed = false ∧ (run sz evs).s.p.writeClosed = false) := by
    rcases hc with c | c <;> simp [c]
  refine ⟨fun n hn => ?_, fun r n hn => ?_, fun e => ⟨fun hb => ?_, fun r n hb => ?_⟩⟩
  · obtain ⟨_, a, b, _⟩ := hi.rwait n hn
    exact key ⟨a, b⟩
  · obtain ⟨_, _, a, b, _⟩ := hi.wwait r n hn
    exact key ⟨a, b⟩
  · obtain ⟨n, q, rs, hq⟩ := step_read_out _ hi _ _ hb
    obtain ⟨a, b, _⟩ := rs.answers.block hq
    exact key ⟨a, b⟩
  · obtain ⟨bs, m, q, ws, hq, _⟩ := step_write_out _ hi _ _ hb
    obtain ⟨a, b, _⟩ := ws.answers.block r n hq
    exact key ⟨a, b⟩

/-- **Deadlines unblock waiting calls.** Once the read (write) deadline timer has fired and until the
deadline is reset, the reader (writer) is not parked and no read (write) attempt parks. -/
theorem deadline_unblocks (sz : Nat) (evs : List Ev) (h : 0 < sz) :
    ((run sz evs).s.p.rtimedout = true →
      (∀ n, (run sz evs).s.rt ≠ .waiting n) ∧ ∀ e, (step (run sz evs).s e).2.1 ≠ .r .block) ∧
    ((run sz evs).s.p.wtimedout = true →
      (∀ r n, (run sz evs).s.wt ≠ .waiting r n) ∧ ∀ e r n, (step (run sz evs).s e).2.1 ≠ .w (.block r n)) := by
  have hi := sinv_run sz evs h
  refine ⟨fun ht => ⟨fun n hn => ?_, fun e hb => ?_⟩, fun ht => ⟨fun r n hn => ?_, fun e r n hb => ?_⟩⟩
  · rw [(hi.rwait n hn).2.2.2] at ht; contradiction
  · obtain ⟨n, q, rs, hq⟩ := step_read_out _ hi _ _ hb
    rw [(rs.answers.block hq).2.2] at ht; contradiction
  · rw [(hi.wwait r n hn).2.2.2.2] at ht; contradiction
  · obtain ⟨bs, m, q, ws, hq, _⟩ := step_write_out _ hi _ _ hb
    rw [(ws.answers.block r n hq).2.2] at ht; contradiction

/-- A `Write` that returns without error has accepted every byte, and `Write` never spins (cap ≥ 1). -/
theorem write_ok_complete (sz : Nat) (evs : List Ev) (bs : List Nat) (h : 0 < sz) :
    (step (run sz evs).s (.write bs)).2.1 ≠ .w .spin ∧
    ∀ n, (step (run sz evs).s (.write bs)).2.1 = .w (.ok n) → n = bs.length := by
  have hi := sinv_run sz evs h
  refine ⟨fun hb => ?_, fun n hb => ?_⟩
  · obtain ⟨_, _, q, ws, hq, _⟩ := step_write_out _ hi _ _ hb
    exact ws.answers.not_spin hq
  · obtain ⟨bs', m, q, ws, hq, hb'⟩ := step_write_out _ hi _ _ hb
    obtain ⟨rfl, rfl⟩ := hb' bs rfl
    rw [ws.answers.ok n hq, Nat.zero_add]

/-! ### non-vacuity: concrete runs (cap 3: wrap-around, partial write that parks, wake-up, EOF) -/

/-- write 5 bytes into cap 3 parks after 3; the read wakes the writer; it finishes; close-write; drain; EOF -/
def demo : List Ev :=
  [.write [1,2,3,4,5], .read 2, .wresume, .read 8, .read 8, .closeWrite, .read 8]

example : (run 3 demo).got = [1,2,3,4,5] ∧ (run 3 demo).put = [1,2,3,4,5] ∧ (run 3 demo).s.p.abs = [] := by decide +kernel
example : (step (run 3 [.write [1,2,3,4,5]]).s (.read 2)).2.1 = .r (.data [1,2]) ∧
    (run 3 [.write [1,2,3,4,5]]).s.wt = .waiting [4,5] 3 ∧
    (run 3 [.write [1,2,3,4,5], .read 2]).s.wt = .woken [4,5] 3 := by decide +kernel
example : (step (run 3 demo).s (.read 4)).2.1 = .r .eof := by decide +kernel
example : (run 3 [.read 1]).s.rt = .waiting 1 ∧ (run 3 [.read 1, .close]).s.rt = .woken 1 ∧
    (step (run 3 [.read 1, .close]).s .rresume).2.1 = .r .errClosed := by decide +kernel
example : (run 2 [.read 1, .rtimer]).s.p.rtimedout = true ∧
    (step (run 2 [.read 1, .rtimer]).s .rresume).2.1 = .r .timeout := by decide +kernel
example : (step (run 2 [.closeWrite]).s (.write [7])).2.1 = .w .errClosed := by decide +kernel

end Specter.C39
