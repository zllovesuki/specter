import SpecterModel.C39.Model
/-!
# C39 — the sequential ring buffer

The ring buffer of `util/bufconn/bufconn.go` (`Model.lean`, exactly as coded) seen through its abstraction `Pipe.abs`
(the bytes written and not yet read): the representation invariant `Inv`, and what one pass of `Read` (`ReadSpec`) and
one atomic run of the `Write` loops (`WriteSpec`) do to the abstract content, for all capacities ≥ 1.
-/
namespace Specter.C39

def slice (l : List Nat) (a b : Nat) : List Nat := (l.drop a).take (b - a)
/-- `copy(l[w:], ys)` when it fits -/
def splice (l : List Nat) (w : Nat) (ys : List Nat) : List Nat := l.take w ++ ys ++ l.drop (w + ys.length)

theorem slice_zero (l : List Nat) (b : Nat) : slice l 0 b = l.take b := by simp [slice]
theorem slice_self (l : List Nat) (a : Nat) : slice l a a = [] := by simp [slice]

theorem slice_get (l : List Nat) (a b i : Nat) :
    (slice l a b)[i]? = if i < b - a then l[a + i]? else none := by
  rw [slice, List.getElem?_take, List.getElem?_drop]

theorem slice_length (l : List Nat) (a b : Nat) (h : b ≤ l.length) : (slice l a b).length = b - a := by
  rw [slice, List.length_take, List.length_drop]; exact Nat.min_eq_left (Nat.sub_le_sub_right h a)

theorem slice_split (l : List Nat) (a m b : Nat) (h1 : a ≤ m) (h2 : m ≤ b) :
    slice l a b = slice l a m ++ slice l m b := by
  rw [slice, ← Nat.sub_add_sub_cancel h2 h1, Nat.add_comm, List.take_add, List.drop_drop, Nat.add_sub_cancel' h1]
  rfl

theorem slice_eq_drop_take (l : List Nat) (a b : Nat) (h : a ≤ b) : slice l a b = (l.take b).drop a := by
  rw [slice, List.take_drop, Nat.add_sub_cancel' h]

theorem splice_length (l ys : List Nat) (w : Nat) (h : w + ys.length ≤ l.length) :
    (splice l w ys).length = l.length := by
  rw [splice, List.length_append, List.length_append, List.length_take, List.length_drop,
    Nat.min_eq_left (Nat.le_trans (Nat.le_add_right _ _) h), Nat.add_sub_cancel' h]

theorem take_splice (l ys : List Nat) (w : Nat) (h : w ≤ l.length) :
    (splice l w ys).take (w + ys.length) = l.take w ++ ys :=
  List.take_left' (by rw [List.length_append, List.length_take, Nat.min_eq_left h])

theorem drop_splice (l ys : List Nat) (w a : Nat) (h : w ≤ l.length) (ha : w + ys.length ≤ a) :
    (splice l w ys).drop a = l.drop a := by
  have hl : (l.take w ++ ys).length = w + ys.length := by
    rw [List.length_append, List.length_take, Nat.min_eq_left h]
  obtain ⟨i, rfl⟩ := Nat.exists_eq_add_of_le ha
  rw [splice, ← hl, List.drop_length_add_append, List.drop_drop, hl]

theorem slice_splice_extend (l ys : List Nat) (w a : Nat) (h : w ≤ l.length) (ha : a ≤ w) :
    slice (splice l w ys) a (w + ys.length) = slice l a w ++ ys := by
  rw [slice_eq_drop_take _ _ _ (Nat.le_add_right_of_le ha), take_splice _ _ _ h, slice_eq_drop_take _ _ _ ha,
    List.drop_append_of_le_length (by rw [List.length_take, Nat.min_eq_left h]; exact ha)]

/-- The representation invariant of the ring (the comment on `buf` in `bufconn.go`, made exact). -/
structure Inv (p : Pipe) : Prop where
  r_le : p.r ≤ p.len
  len_le : p.len ≤ p.cap
  w_lt : p.w < p.cap
  r_lt : p.r < p.cap
  /-- the data is one piece `arr[r:len]` that writes extend at `w = len`; or `len(buf)` has reached `cap`, the write
  index has wrapped and stays behind the read index: two pieces `arr[r:cap] ++ arr[0:w]` -/
  shape : p.w = p.len ∨ (p.len = p.cap ∧ p.w ≤ p.r)

theorem Inv.of_cap {p : Pipe} {c : Nat} (hc : p.cap = c) (h1 : p.r ≤ p.len) (h2 : p.len ≤ c) (h3 : p.w < c)
    (h4 : p.r < c) (h5 : p.w = p.len ∨ (p.len = c ∧ p.w ≤ p.r)) : Inv p := by
  subst hc; exact ⟨h1, h2, h3, h4, h5⟩

theorem abs_eq (p : Pipe) :
    p.abs = slice p.arr p.r p.len ++ if p.w = p.len then [] else p.arr.take p.w := by
  unfold Pipe.abs slice; split <;> simp

/-- one piece `arr[r:len]`; `w = 0`: the write index has just wrapped -/
theorem abs_linear (p : Pipe) (h : p.w = p.len ∨ p.w = 0) : p.abs = slice p.arr p.r p.len := by
  rw [abs_eq]; split
  · exact List.append_nil _
  · rw [h.resolve_left ‹_›]; exact List.append_nil _

theorem abs_wrapped (p : Pipe) (h : p.w ≠ p.len) : p.abs = slice p.arr p.r p.len ++ p.arr.take p.w := by
  rw [abs_eq, if_neg h]

theorem inv_new (sz : Nat) (h : 0 < sz) : Inv (newPipe sz) := by
  constructor <;> simp [newPipe, Pipe.cap, h]

theorem abs_new (sz : Nat) : (newPipe sz).abs = [] := by simp [newPipe, Pipe.abs]

theorem abs_length (p : Pipe) (h : Inv p) :
    p.abs.length = if p.w = p.len then p.len - p.r else p.len - p.r + p.w := by
  rw [abs_eq, List.length_append, slice_length _ _ _ h.len_le]
  split
  · rfl
  · rw [List.length_take]; exact congrArg _ (Nat.min_eq_left (Nat.le_of_lt h.w_lt))

theorem abs_length_le (p : Pipe) (h : Inv p) : p.abs.length ≤ p.cap := by
  have := h.r_le; have := h.len_le; have := h.r_lt; have := h.shape
  rw [abs_length p h]; split <;> omega

theorem empty_iff (p : Pipe) (h : Inv p) : p.empty = true ↔ p.abs = [] := by
  have := h.r_le; have := h.r_lt; have := h.shape
  rw [← List.length_eq_zero_iff, abs_length p h, Pipe.empty, beq_iff_eq]
  split <;> omega

theorem full_iff (p : Pipe) (h : Inv p) : p.full = true ↔ p.abs.length = p.cap := by
  have := h.r_le; have := h.len_le; have := h.w_lt; have := h.r_lt; have := h.shape
  rw [abs_length p h, Pipe.full, Bool.and_eq_true, decide_eq_true_eq, beq_iff_eq]
  split <;> omega

/-- what moving data leaves alone: the four flags, and the capacity -/
structure sameFlags (p q : Pipe) : Prop where
  closed : q.closed = p.closed
  writeClosed : q.writeClosed = p.writeClosed
  rtimedout : q.rtimedout = p.rtimedout
  wtimedout : q.wtimedout = p.wtimedout
  cap : q.cap = p.cap

theorem sameFlags_refl (p : Pipe) : sameFlags p p := ⟨rfl, rfl, rfl, rfl, rfl⟩
theorem sameFlags_trans {p q r : Pipe} (a : sameFlags p q) (b : sameFlags q r) : sameFlags p r :=
  ⟨b.closed.trans a.closed, b.writeClosed.trans a.writeClosed, b.rtimedout.trans a.rtimedout,
    b.wtimedout.trans a.wtimedout, b.cap.trans a.cap⟩

theorem readCopy_spec (p : Pipe) (n : Nat) (h : Inv p) :
    Inv (readCopy p n).1 ∧ sameFlags p (readCopy p n).1 ∧ p.abs = (readCopy p n).2 ++ (readCopy p n).1.abs ∧
    (readCopy p n).2.length = min n (p.len - p.r) := by
  unfold readCopy; dsimp only
  generalize hk : min n (p.len - p.r) = k
  have hle : p.r + k ≤ p.len := Nat.add_le_of_le_sub' h.r_le (hk ▸ Nat.min_le_right _ _)
  rw [show (p.arr.drop p.r).take k = slice p.arr p.r (p.r + k) by rw [slice, Nat.add_sub_cancel_left]]
  have hlen : (slice p.arr p.r (p.r + k)).length = k := by
    rw [slice_length _ _ _ (Nat.le_trans hle h.len_le), Nat.add_sub_cancel_left]
  by_cases c : p.r + k = p.cap
  · -- the read reaches the end of the backing array: r wraps, len(buf) shrinks to w
    have hl : p.r + k = p.len := Nat.le_antisymm hle (c ▸ h.len_le)
    rw [if_pos c]
    refine ⟨⟨Nat.zero_le _, Nat.le_of_lt h.w_lt, h.w_lt, Nat.zero_lt_of_lt h.w_lt, .inl rfl⟩,
      ⟨rfl, rfl, rfl, rfl, rfl⟩, ?_, hlen⟩
    rw [abs_wrapped p (Nat.ne_of_lt (hl ▸ c ▸ h.w_lt)), abs_linear _ (.inl rfl), slice_zero, hl]
  · rw [if_neg c]
    refine ⟨⟨hle, h.len_le, h.w_lt, Nat.lt_of_le_of_ne (Nat.le_trans hle h.len_le) c,
      h.shape.imp_right (.imp_right Nat.le_add_right_of_le)⟩, ⟨rfl, rfl, rfl, rfl, rfl⟩, ?_, hlen⟩
    rw [abs_eq p, abs_eq, slice_split p.arr p.r (p.r + k) p.len (Nat.le_add_right _ _) hle, List.append_assoc]

/-- the write index wraps to 0 at the end of the backing array -/
theorem wrap_index {w c : Nat} (h : w ≤ c) (hc : 0 < c) :
    (if w = c then 0 else w) < c ∧ ((if w = c then 0 else w) = w ∨ (w = c ∧ (if w = c then 0 else w) = 0)) := by
  split
  · exact ⟨hc, .inr ⟨‹_›, rfl⟩⟩
  · exact ⟨Nat.lt_of_le_of_ne h ‹_›, .inl rfl⟩

theorem writeChunk_spec (p : Pipe) (bs : List Nat) (h : Inv p) (hnf : p.full = false) :
    Inv (writeChunk p bs).1 ∧ sameFlags p (writeChunk p bs).1 ∧
    (writeChunk p bs).1.abs = p.abs ++ bs.take (writeChunk p bs).2 ∧
    (writeChunk p bs).2 ≤ bs.length ∧ (bs ≠ [] → 0 < (writeChunk p bs).2) := by
  unfold writeChunk; dsimp only
  generalize hx : min ((if p.w < p.r then p.r else p.cap) - p.w) bs.length = x
  have hxn : x ≤ bs.length := hx ▸ Nat.min_le_right _ _
  -- the bytes copied: some `ys` of length `x`
  have hy : (bs.take x).length = x := by rw [List.length_take, Nat.min_eq_left hxn]
  generalize bs.take x = ys at hy ⊢
  subst hy
  rw [show p.arr.take p.w ++ ys ++ p.arr.drop (p.w + ys.length) = splice p.arr p.w ys from rfl]
  by_cases cA : p.w = p.len
  · -- one piece arr[r:len], w = len: the chunk goes to arr[w:cap] and extends it
    have hr : p.r ≤ p.w := cA ▸ h.r_le
    rw [if_neg (Nat.not_lt.mpr hr)] at hx
    have hfit : p.w + ys.length ≤ p.cap := Nat.add_le_of_le_sub' (Nat.le_of_lt h.w_lt) (hx ▸ Nat.min_le_left _ _)
    have hsl := splice_length p.arr ys p.w hfit
    obtain ⟨hw', hwrap⟩ := wrap_index hfit (Nat.zero_lt_of_lt h.w_lt)
    rw [show (if p.w + ys.length > p.len then p.w + ys.length else p.len) = p.w + ys.length by
      rw [← cA]; split
      · rfl
      · exact Nat.le_antisymm (Nat.le_add_right _ _) (Nat.not_lt.mp ‹_›)]
    refine ⟨.of_cap hsl (Nat.le_add_right_of_le hr) hfit hw' h.r_lt
        (hwrap.imp_right fun ⟨a, b⟩ => ⟨a, Nat.le_trans (Nat.le_of_eq b) (Nat.zero_le _)⟩),
      ⟨rfl, rfl, rfl, rfl, hsl⟩, ?_, hxn, fun hb => ?_⟩
    · rw [abs_linear p (.inl cA), abs_linear _ (hwrap.imp_right (·.2)), ← cA]
      exact slice_splice_extend p.arr ys p.w p.r (Nat.le_of_lt h.w_lt) hr
    · exact hx ▸ Nat.lt_min.mpr ⟨Nat.sub_pos_of_lt h.w_lt, List.length_pos_iff.mpr hb⟩
  · -- two pieces arr[r:cap] ++ arr[0:w], w < r: the chunk goes to arr[w:r] and extends the second
    obtain ⟨hl, hwr⟩ := h.shape.resolve_left cA
    have hwr : p.w < p.r := Nat.lt_of_le_of_ne hwr fun e => by
      simp [Pipe.full, hl, h.r_lt, e] at hnf
    rw [if_pos hwr] at hx
    have hfit : p.w + ys.length ≤ p.r := Nat.add_le_of_le_sub' (Nat.le_of_lt hwr) (hx ▸ Nat.min_le_left _ _)
    have hlt : p.w + ys.length < p.cap := Nat.lt_of_le_of_lt hfit h.r_lt
    have hsl := splice_length p.arr ys p.w (Nat.le_of_lt hlt)
    rw [if_neg (Nat.not_lt.mpr (Nat.le_trans hfit h.r_le)), if_neg (Nat.ne_of_lt hlt)]
    refine ⟨.of_cap hsl h.r_le h.len_le hlt h.r_lt (.inr ⟨hl, hfit⟩),
      ⟨rfl, rfl, rfl, rfl, hsl⟩, ?_, hxn, fun hb => ?_⟩
    · rw [abs_wrapped p cA, abs_wrapped _ (Nat.ne_of_lt (hl ▸ hlt)), List.append_assoc, slice,
        take_splice p.arr ys p.w (Nat.le_of_lt h.w_lt), drop_splice _ _ _ _ (Nat.le_of_lt h.w_lt) hfit, ← slice]
    · exact hx ▸ Nat.lt_min.mpr ⟨Nat.sub_pos_of_lt hwr, List.length_pos_iff.mpr hb⟩

/-- The answer of `Write` when it returns or parks on the pipe `q` with `rest` still to write and `m` bytes accepted. -/
def WriteAnswer (q : Pipe) (rest : List Nat) (m : Nat) : WOut → Prop
  | .ok m' => rest = [] ∧ m' = m ∧ q.closed = false
  | .errClosed => (q.closed || q.writeClosed) = true
  | .timeout => q.full = true ∧ q.closed = false ∧ q.writeClosed = false ∧ q.wtimedout = true
  | .block rest' m' => rest' = rest ∧ rest ≠ [] ∧ m' = m ∧ q.full = true ∧
      q.closed = false ∧ q.writeClosed = false ∧ q.wtimedout = false
  | .spin => False

/-- an atomic run of the `Write` loops on `bs` (`n` bytes accepted before) that copies `k` bytes -/
structure WriteRun (p : Pipe) (bs : List Nat) (n : Nat) (sig : Bool) (cp : List Nat)
    (q : Pipe × WOut × Bool × List Nat) (k : Nat) : Prop where
  inv : Inv q.1
  flags : sameFlags p q.1
  le : k ≤ bs.length
  abs : q.1.abs = p.abs ++ bs.take k
  copied : q.2.2.2 = cp ++ bs.take k
  /-- `rwait.Signal()`: the pipe was empty and something was copied -/
  signal : q.2.2.1 = (sig || (p.empty && decide (0 < k)))
  writable : 0 < k → p.writeClosed = false
  answer : WriteAnswer q.1 (bs.drop k) (n + k) q.2.1

def WriteSpec (p : Pipe) (bs : List Nat) (n : Nat) (sig : Bool) (cp : List Nat)
    (q : Pipe × WOut × Bool × List Nat) : Prop :=
  ∃ k, WriteRun p bs n sig cp q k

/-- what the flags of the pipe a run starts on say about its answer `o` -/
structure WriteSpec.Answers (p : Pipe) (bs : List Nat) (n : Nat) (o : WOut) : Prop where
  not_spin : o ≠ .spin
  closed : p.closed = true → o = .errClosed
  writeClosed : bs ≠ [] → p.writeClosed = true → o = .errClosed
  block : ∀ r m, o = .block r m → p.closed = false ∧ p.writeClosed = false ∧ p.wtimedout = false
  ok : ∀ m, o = .ok m → m = n + bs.length

theorem WriteSpec.answers {p : Pipe} {bs : List Nat} {n : Nat} {sig : Bool} {cp : List Nat}
    {q : Pipe × WOut × Bool × List Nat} (ws : WriteSpec p bs n sig cp q) : WriteSpec.Answers p bs n q.2.1 := by
  obtain ⟨k, r⟩ := ws
  have no : ∀ {b : Bool} {P : Prop}, b = false → b = true → P :=
    fun h h' => absurd (h.symm.trans h') Bool.false_ne_true
  have a := r.answer
  generalize q.2.1 = o at a
  cases o
  case ok m =>
    obtain ⟨hr, hm, hc⟩ := a
    have hk : k = bs.length := Nat.le_antisymm r.le (List.drop_eq_nil_iff.mp hr)
    exact ⟨nofun, no (r.flags.closed ▸ hc), fun hb => no (r.writable (hk ▸ List.length_pos_iff.mpr hb)), nofun,
      fun m' e => by injection e with e; rw [← e, hm, hk]⟩
  case errClosed => exact ⟨nofun, fun _ => rfl, fun _ _ => rfl, nofun, nofun⟩
  case timeout =>
    obtain ⟨_, hc, hw, _⟩ := a
    exact ⟨nofun, no (r.flags.closed ▸ hc), fun _ => no (r.flags.writeClosed ▸ hw), nofun, nofun⟩
  case block =>
    obtain ⟨_, _, _, _, hc, hw, ht⟩ := a
    have hc := r.flags.closed ▸ hc
    have hw := r.flags.writeClosed ▸ hw
    exact ⟨nofun, no hc, fun _ => no hw, fun _ _ _ => ⟨hc, hw, r.flags.wtimedout ▸ ht⟩, nofun⟩
  case spin => exact a.elim

theorem WriteSpec.stop {p : Pipe} {bs : List Nat} {n : Nat} {sig : Bool} {cp : List Nat} {o : WOut} (h : Inv p)
    (a : WriteAnswer p bs n o) : WriteSpec p bs n sig cp (p, o, sig, cp) :=
  ⟨0, h, sameFlags_refl p, Nat.zero_le _, by simp, by simp, by simp, nofun, a⟩

theorem writeLoop_spec (fuel : Nat) (p : Pipe) (bs : List Nat) (n : Nat) (sig : Bool) (cp : List Nat)
    (h : Inv p) (hf : bs.length < fuel) (hcl : bs ≠ [] ∨ p.closed = false) :
    WriteSpec p bs n sig cp (writeLoop fuel p bs n sig cp) := by
  have opn : ∀ {p : Pipe}, ¬(p.closed || p.writeClosed) = true → p.closed = false ∧ p.writeClosed = false :=
    fun c => by simpa using c
  have ful : ∀ {p : Pipe}, ¬(!p.full) = true → p.full = true := fun c => by simpa using c
  fun_induction writeLoop fuel p bs n sig cp
  case case1 => exact absurd hf (Nat.not_lt_zero _)   -- no fuel
  case case2 c0 =>   -- nothing left to write
    have hb := List.isEmpty_iff.mp c0
    exact .stop h ⟨hb, rfl, hcl.resolve_left (· hb)⟩
  case case3 c1 => exact .stop h c1   -- closed
  case case5 c0 c1 c2 c3 => exact .stop h ⟨ful c2, (opn c1).1, (opn c1).2, c3⟩   -- full: timeout
  case case6 c0 c1 c2 c3 =>   -- full: park
    exact .stop h ⟨rfl, mt List.isEmpty_iff.mpr c0, rfl, ful c2, (opn c1).1, (opn c1).2, eq_false_of_ne_true c3⟩
  case case4 fuel p bs n sig cp c0 c1 c2 wasEmpty c ih =>   -- room: copy a chunk, go on
    have hne : bs ≠ [] := mt List.isEmpty_iff.mpr c0
    obtain ⟨c1a, c1b⟩ := opn c1
    dsimp only [c, wasEmpty] at ih ⊢
    obtain ⟨i1, f1, a1, l1, pos1⟩ := writeChunk_spec p bs h (by simpa using c2)
    generalize writeChunk p bs = c at i1 f1 a1 l1 pos1 ih ⊢
    obtain ⟨p1, x⟩ := c
    have pos : 0 < x := pos1 hne
    have ih' := ih i1
      (List.length_drop ▸ Nat.lt_of_lt_of_le (Nat.sub_lt (List.length_pos_iff.mpr hne) pos) (Nat.le_of_lt_succ hf))
      (.inr (f1.closed.trans c1a))
    generalize writeLoop fuel p1 (bs.drop x) (n + x) (sig || p.empty) (cp ++ bs.take x) = q at ih' ⊢
    obtain ⟨k, r⟩ := ih'
    have hk := r.le
    rw [List.length_drop] at hk
    have htake : bs.take x ++ (bs.drop x).take k = bs.take (x + k) := List.take_add.symm
    -- the chunk made the pipe non-empty, so the rest of the run does not signal on its own account
    have hp1ne : p1.empty = false := Bool.eq_false_iff.mpr fun e => by
      have := (empty_iff p1 i1).mp e
      rw [a1, List.append_eq_nil_iff, List.take_eq_nil_iff] at this
      exact this.2.elim (Nat.ne_of_gt pos) hne
    refine ⟨x + k, r.inv, sameFlags_trans f1 r.flags, Nat.add_le_of_le_sub' l1 hk, ?_, ?_, ?_, fun _ => c1b, ?_⟩
    · rw [r.abs, a1, List.append_assoc, htake]
    · rw [r.copied, List.append_assoc, htake]
    · rw [r.signal, hp1ne, decide_eq_true (Nat.add_pos_left pos k)]; simp
    · have m2 := r.answer
      rw [List.drop_drop, Nat.add_assoc] at m2; exact m2

/-- one pass of `Read`: it moves data, or leaves the pipe as it is and signals nobody -/
def ReadSpec (p : Pipe) (n : Nat) (q : Pipe × ROut × Bool) : Prop :=
  match q.2.1 with
  | .data d => Inv q.1 ∧ sameFlags p q.1 ∧ p.abs = d ++ q.1.abs ∧ q.2.2 = p.full ∧ p.closed = false ∧
      d.length ≤ n ∧ (0 < n → d ≠ [])
  | .eof => q.1 = p ∧ q.2.2 = false ∧ p.closed = false ∧ p.abs = [] ∧ p.writeClosed = true
  | .errClosed => q.1 = p ∧ q.2.2 = false ∧ p.closed = true
  | .timeout => q.1 = p ∧ q.2.2 = false ∧ p.closed = false ∧ p.abs = [] ∧ p.writeClosed = false ∧ p.rtimedout = true
  | .block => q.1 = p ∧ q.2.2 = false ∧ p.closed = false ∧ p.abs = [] ∧ p.writeClosed = false ∧ p.rtimedout = false

/-- what the flags of the pipe say about the answer `o` of a pass of `Read` -/
structure ReadSpec.Answers (p : Pipe) (o : ROut) : Prop where
  closed : p.closed = true → o = .errClosed
  block : o = .block → p.closed = false ∧ p.writeClosed = false ∧ p.rtimedout = false

theorem ReadSpec.answers {p : Pipe} {n : Nat} {q : Pipe × ROut × Bool} (rs : ReadSpec p n q) :
    ReadSpec.Answers p q.2.1 := by
  revert rs
  fun_cases ReadSpec p n q <;> intro rs <;> constructor <;> simp_all

theorem readStep_spec (p : Pipe) (n : Nat) (h : Inv p) : ReadSpec p n (readStep p n) := by
  have ha : ¬(!p.empty) = true → p.abs = [] := fun c => (empty_iff p h).mp (by simpa using c)
  unfold ReadSpec
  fun_cases readStep p n
  case case1 c1 => exact ⟨rfl, rfl, c1⟩   -- closed
  case case2 c1 c2 _ _ =>   -- not empty: data moves
    obtain ⟨i, f, a, l⟩ := readCopy_spec p n h
    have hlt : p.r < p.len := Nat.lt_of_le_of_ne h.r_le (by simpa [Pipe.empty] using c2)
    dsimp only
    refine ⟨i, f, a, rfl, eq_false_of_ne_true c1, l ▸ Nat.min_le_left _ _, fun hn => ?_⟩
    rw [← List.length_pos_iff, l]; exact Nat.lt_min.mpr ⟨hn, Nat.sub_pos_of_lt hlt⟩
  case case3 c1 c2 c3 => exact ⟨rfl, rfl, eq_false_of_ne_true c1, ha c2, c3⟩   -- EOF
  case case4 c1 c2 c3 c4 => exact ⟨rfl, rfl, eq_false_of_ne_true c1, ha c2, eq_false_of_ne_true c3, c4⟩   -- timeout
  case case5 c1 c2 c3 c4 =>   -- park
    exact ⟨rfl, rfl, eq_false_of_ne_true c1, ha c2, eq_false_of_ne_true c3, eq_false_of_ne_true c4⟩

theorem writeStart_spec (p : Pipe) (bs : List Nat) (h : Inv p) : WriteSpec p bs 0 false [] (writeStart p bs) := by
  fun_cases writeStart p bs
  case case1 c => exact .stop h (by simp [WriteAnswer, c])
  case case2 c => exact writeLoop_spec _ p bs 0 false [] h (Nat.lt_succ_self _) (.inr (eq_false_of_ne_true c))

theorem writeResume_spec (p : Pipe) (rest : List Nat) (n : Nat) (h : Inv p) (hr : rest ≠ []) :
    WriteSpec p rest n false [] (writeResume p rest n) :=
  writeLoop_spec _ p rest n false [] h (Nat.lt_succ_self _) (.inl hr)

/-- `Inv`, `abs` and `full` look at the data fields only -/
theorem view_of_data_eq (p q : Pipe) (hd : q.arr = p.arr ∧ q.len = p.len ∧ q.w = p.w ∧ q.r = p.r) :
    (Inv p → Inv q) ∧ q.abs = p.abs ∧ q.full = p.full := by
  obtain ⟨arr, len, w, r, _, _, _, _⟩ := p
  obtain ⟨arr', len', w', r', _, _, _, _⟩ := q
  obtain ⟨rfl, rfl, rfl, rfl⟩ := hd
  exact ⟨fun h => ⟨h.r_le, h.len_le, h.w_lt, h.r_lt, h.shape⟩, rfl, rfl⟩

end Specter.C39
