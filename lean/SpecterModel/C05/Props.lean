import SpecterModel.C03.Find
/-!
# C05 — Each stored key lives only on its responsible node

Store-level exactness of the two hand-off primitives of the ring model (`transferUp` on join,
`transferDown` on leave), for every store, every range and every net:

* join: after a successful hand-off, the successor keeps no data key whose hash lies in the range
  `(prev, j]` it gave away, every key it keeps that was in its range `(prev, s]` is now in `(j, s]`
  (its new range), and every key that appears at the joiner has its hash in `(prev, j]`
  (the joiner's range) or was already there;
* leave: after a successful transfer the leaver holds no data at all.

The churn harness checks the resulting placement invariant (every stored key in `(pred, self]`, no key
on two nodes) on real nodes at every quiescent point (memory-backed rings).
-/
namespace Specter.C05
open Specter.Ring Specter.C03.Refine

theorem mem_rangeKeys (st : List KEntry) (low high : Nat) (e : KEntry) :
    e ∈ rangeKeys st low high ↔ e ∈ st ∧ between low e.hash high true = true ∧ e.isDeleted = false := by
  unfold rangeKeys; simp [List.mem_filter]

/-- a selection from a store with distinct keys has distinct keys (`rangeKeys` is one) -/
theorem filter_keys_nodup {st : List KEntry} (hnd : (st.map (·.key)).Nodup) (p : KEntry → Bool) :
    ((st.filter p).map (·.key)).Nodup :=
  List.Nodup.sublist (List.Sublist.map _ List.filter_sublist) hnd

theorem mem_removeKeys (st es : List KEntry) (e : KEntry) :
    e ∈ removeKeys st es ↔ e ∈ st ∧ ∀ m ∈ es, m.key ≠ e.key := by
  unfold removeKeys
  simp only [List.mem_filter, Bool.not_eq_true', List.any_eq_false, beq_iff_eq]

theorem remaining_outside_range (st : List KEntry) (low high : Nat) (e : KEntry)
    (h : e ∈ removeKeys st (rangeKeys st low high)) (hd : e.isDeleted = false) :
    between low e.hash high true = false := by
  rw [mem_removeKeys] at h
  obtain ⟨hm, hk⟩ := h
  cases hb : between low e.hash high true with
  | false => rfl
  | true => exact absurd rfl (hk e ((mem_rangeKeys st low high e).mpr ⟨hm, hb, hd⟩))

/-- `(prev, s]` minus `(prev, j]` is `(j, s]` when `j` lies strictly inside `(prev, s)` -/
theorem range_split (prev j s h : Nat) (hp : prev < M) (hj : j < M) (hs : s < M) (hh : h < M)
    (hjs : between prev j s false = true) (hin : between prev h s true = true)
    (hout : between prev h j true = false) : between j h s true = true := by
  rw [between_open_iff_cw prev j s hp hj hs] at hjs
  rw [between_closed_iff_cw prev h s hp hh hs] at hin
  rw [← Bool.not_eq_true, between_closed_iff_cw prev h j hp hh hj, Nat.not_le] at hout
  -- seen from `prev`, `j` comes strictly before `h` and `s`: measure both from `j` instead
  rw [between_closed_iff_cw j h s hj hh hs, cw_eq_cw_sub prev j h hp hj hh hout, cw_eq_cw_sub prev j s hp hj hs hjs]
  exact Nat.sub_le_sub_right hin _

theorem importAt_get (net n2 : Net) (j : Nat) (es : List KEntry) (h : importAt net j es = some n2) :
    ∃ ndj, net.get j = some ndj ∧ n2 = net.upd j (fun nd => { nd with store := importEntries nd.store es }) := by
  revert h
  fun_cases importAt net j es
  -- the one branch that answers: a node that is up and in none of the three refusing states
  case case6 ndj hg _ _ _ _ => rintro ⟨⟩; exact ⟨ndj, hg, rfl⟩
  all_goals exact nofun

/-- the common shape of `transferUp` and `transferDown` (each is `handOver` of its range, by `rfl`): hand
`moved` over from `src` to `dst` -/
def handOver (net : Net) (src dst : Nat) (moved : List KEntry) : Option Net :=
  if moved.isEmpty then some net
  else match importAt net dst moved with
    | some n2 => some (n2.upd src (fun nd => { nd with store := removeKeys nd.store moved }))
    | none => none

theorem removeKeys_nil (st : List KEntry) : removeKeys st [] = st := by
  simp [removeKeys]

theorem handOver_get (net net' : Net) (src dst : Nat) (moved : List KEntry)
    (h : handOver net src dst moved = some net') (m : Nat) :
    net'.get m =
      ((net.get m).map fun nd => if m = dst then { nd with store := importEntries nd.store moved } else nd).map
        fun nd => if m = src then { nd with store := removeKeys nd.store moved } else nd := by
  revert h
  fun_cases handOver net src dst moved
  -- nothing to move
  case case1 he =>
    rintro ⟨⟩
    rw [List.isEmpty_iff] at he; subst he
    cases net.get m <;> simp [removeKeys_nil, importEntries]
  -- `dst` accepts the import
  case case2 n2 hi =>
    rintro ⟨⟩
    obtain ⟨_, _, rfl⟩ := importAt_get net n2 dst moved hi
    simp only [get_upd]
    by_cases e1 : m = src <;> by_cases e2 : m = dst <;> subst_vars <;> simp [*]
  -- `dst` refuses: no net
  case case3 => exact nofun

theorem handOver_map {α : Type} (g : Node → α) (hg : ∀ x st, g { x with store := st } = g x)
    (net net' : Net) (src dst : Nat) (moved : List KEntry) (h : handOver net src dst moved = some net') (m : Nat) :
    (net'.get m).map g = (net.get m).map g := by
  rw [handOver_get net net' src dst moved h m]
  cases net.get m with
  | none => rfl
  | some x => simp only [Option.map_some]; split <;> split <;> simp only [hg]

theorem handOver_get_src (net net' : Net) (src dst : Nat) (moved : List KEntry) (nd : Node) (hne : src ≠ dst)
    (h : handOver net src dst moved = some net') (hg : net.get src = some nd) :
    net'.get src = some { nd with store := removeKeys nd.store moved } := by
  rw [handOver_get net net' src dst moved h, hg]; simp [hne]

theorem handOver_get_dst (net net' : Net) (src dst : Nat) (moved : List KEntry) (nd : Node) (hne : src ≠ dst)
    (h : handOver net src dst moved = some net') (hg : net.get dst = some nd) :
    net'.get dst = some { nd with store := importEntries nd.store moved } := by
  rw [handOver_get net net' src dst moved h, hg]; simp [Ne.symm hne]

/-- `hc`: the receiver is up and neither Inactive, Leaving nor Left, so it accepts imports -/
theorem handOver_succeeds (net : Net) (src dst : Nat) (moved : List KEntry) (nd : Node)
    (hg : net.get dst = some nd) (hc : checkNodeState nd true = none) :
    ∃ net', handOver net src dst moved = some net' := by
  unfold handOver importAt
  split
  · exact ⟨_, rfl⟩
  · unfold checkNodeState at hc
    rw [hg]
    cases hcr : nd.crashed
    · cases hst : nd.state <;> simp [hcr, hst] at hc ⊢
    · simp [hcr] at hc

/-- **join, successor side.** After a successful `transferUp` the successor `s` holds no data key with
hash in the range `(prev, j]` it gave away; its pointers and state are untouched. -/
theorem transferUp_source (net net' : Net) (s j prev : Nat) (nd : Node) (hsj : s ≠ j)
    (hg : net.get s = some nd) (h : transferUp net s j prev nd.store = some net') :
    ∃ nd', net'.get s = some nd' ∧ nd'.state = nd.state ∧ nd'.pred = nd.pred ∧ nd'.succs = nd.succs ∧
      ∀ e ∈ nd'.store, e.isDeleted = false → between prev e.hash j true = false :=
  -- `h` is an equation about `handOver` by `rfl`: `transferUp` is `handOver` of the range `(prev, j]`
  ⟨_, handOver_get_src net net' s j _ nd hsj h hg, rfl, rfl, rfl,
    fun e he hd => remaining_outside_range nd.store prev j e he hd⟩

theorem mem_kvUpsert (st : List KEntry) (k : String) (h : Nat) (f : KEntry → KEntry) (e : KEntry)
    (he : e ∈ kvUpsert st k h f) :
    e ∈ st ∨ (∃ e0 ∈ st, e = f e0) ∨ e = f { key := k, hash := h, simple := none, children := [] } := by
  revert he
  fun_cases kvUpsert st k h f
  -- the key is there: `f` is applied in place
  case case1 =>
    simp only [List.mem_map]
    rintro ⟨e0, he0, rfl⟩
    split
    · exact .inr (.inl ⟨e0, he0, rfl⟩)
    · exact .inl he0
  -- a new key: `f` of the empty entry goes to the end
  case case2 =>
    simp only [List.mem_append, List.mem_singleton]
    exact Or.imp_right .inr

theorem mem_importEntries (es st : List KEntry) (e : KEntry) (he : e ∈ importEntries st es) :
    (∃ e0 ∈ st, e0.key = e.key ∧ e0.hash = e.hash) ∨ (∃ m ∈ es, m.key = e.key ∧ m.hash = e.hash) := by
  unfold importEntries at he
  induction es generalizing st with
  | nil => left; exact ⟨e, by simpa using he, rfl, rfl⟩
  | cons m ms ih =>
    simp only [List.foldl_cons] at he
    rcases ih _ he with ⟨e0, he0, hk, hh⟩ | ⟨m', hm', hk, hh⟩
    · rcases mem_kvUpsert st m.key m.hash _ e0 he0 with h1 | ⟨e1, he1, rfl⟩ | rfl
      · left; exact ⟨e0, h1, hk, hh⟩
      · left; exact ⟨e1, he1, by simpa using hk, by simpa using hh⟩
      · right; exact ⟨m, List.mem_cons_self, by simpa using hk, by simpa using hh⟩
    · right; exact ⟨m', List.mem_cons_of_mem _ hm', hk, hh⟩

/-- **join, joiner side.** Every key present at the joiner after a successful `transferUp` was already
there or has its hash in the joiner's range `(prev, j]`. -/
theorem transferUp_target (net net' : Net) (s j prev : Nat) (store : List KEntry) (hsj : s ≠ j)
    (ndj : Node) (hgj : net.get j = some ndj) (h : transferUp net s j prev store = some net') :
    ∃ ndj', net'.get j = some ndj' ∧
      ∀ e ∈ ndj'.store, (∃ e0 ∈ ndj.store, e0.key = e.key ∧ e0.hash = e.hash) ∨ between prev e.hash j true = true := by
  refine ⟨_, handOver_get_dst net net' s j _ ndj hsj h hgj, fun e he => ?_⟩
  rcases mem_importEntries _ _ e he with h1 | ⟨m, hm, _, hh⟩
  · exact Or.inl h1
  · exact Or.inr (hh ▸ ((mem_rangeKeys store prev j m).mp hm).2.1)

/-- the range `(0, 0]` is the whole ring: what `RemoveKeys(RangeKeys(0, 0])` leaves behind holds no data -/
theorem removeKeys_whole (st : List KEntry) : ∀ e ∈ removeKeys st (rangeKeys st 0 0), e.isDeleted = true := by
  intro e he
  cases hd : e.isDeleted with
  | true => rfl
  | false =>
    have := remaining_outside_range st 0 0 e he hd
    rw [between_self] at this; simp at this

/-- **leave.** After a successful `transferDown` the leaver holds no data key at all. -/
theorem transferDown_source_empty (net net' : Net) (l succ : Nat) (nd : Node) (hls : l ≠ succ)
    (hg : net.get l = some nd) (h : transferDown net l succ nd.store = some net') :
    ∃ nd', net'.get l = some nd' ∧ ∀ e ∈ nd'.store, e.isDeleted = true :=
  ⟨_, handOver_get_src net net' l succ _ nd hls h hg, removeKeys_whole nd.store⟩

/-- **C05 for a join step.** If before the hand-off every data key of `s` was in its range `(prev, s]`,
then after it every data key of `s` is in its new range `(j, s]`. -/
theorem handOff_keeps_placement (net net' : Net) (s j prev : Nat) (nd : Node) (hsj : s ≠ j)
    (hg : net.get s = some nd) (hp : prev < M) (hj : j < M) (hs : s < M)
    (hhash : ∀ e ∈ nd.store, e.hash < M)
    (hjs : between prev j s false = true)
    (hplaced : ∀ e ∈ nd.store, e.isDeleted = false → between prev e.hash s true = true)
    (h : transferUp net s j prev nd.store = some net') :
    ∃ nd', net'.get s = some nd' ∧ ∀ e ∈ nd'.store, e.isDeleted = false → between j e.hash s true = true := by
  refine ⟨_, handOver_get_src net net' s j _ nd hsj h hg, fun e he hd => ?_⟩
  have hm : e ∈ nd.store := ((mem_removeKeys _ _ _).mp he).1
  exact range_split prev j s e.hash hp hj hs (hhash e hm) hjs (hplaced e hm hd)
    (remaining_outside_range nd.store prev j e he hd)

/-- non-vacuity: node 200 (pred 100) holds keys hashing to 120, 150 and 180; node 150 joins:
120 and 150 move, 180 stays and is in the new range (150, 200]. -/
def demoNet : Net :=
  [(200, { state := .active, pred := some 100, succs := [100],
           store := [⟨"a", 120, some "v", []⟩, ⟨"b", 150, none, ["c"]⟩, ⟨"c", 180, some "w", []⟩] }),
   (150, { state := .joining })]

example : ((transferUp demoNet 200 150 100
    [⟨"a", 120, some "v", []⟩, ⟨"b", 150, none, ["c"]⟩, ⟨"c", 180, some "w", []⟩]).bind (·.get 200)).map (·.store.map (·.key))
    = some ["c"] := by decide +kernel
example : ((transferUp demoNet 200 150 100
    [⟨"a", 120, some "v", []⟩, ⟨"b", 150, none, ["c"]⟩, ⟨"c", 180, some "w", []⟩]).bind (·.get 150)).map (·.store.map (·.key))
    = some ["a", "b"] := by decide +kernel

/-! ### Conservation: what is handed off arrives intact, what is not handed off stays untouched -/

theorem mem_insertSorted (c x : String) : ∀ l : List String, c ∈ insertSorted x l ↔ c = x ∨ c ∈ l := by
  intro l
  induction l with
  | nil => simp [insertSorted]
  | cons y ys ih =>
    unfold insertSorted
    split
    · simp
    · split
      · rename_i h; have : x = y := by simpa using h
        subst this; simp
      · simp only [List.mem_cons, ih]; exact or_left_comm

theorem mem_foldl_insertSorted (c : String) : ∀ (cs acc : List String),
    c ∈ cs.foldl (fun a x => insertSorted x a) acc ↔ c ∈ cs ∨ c ∈ acc := by
  intro cs
  induction cs with
  | nil => intro acc; simp
  | cons x xs ih =>
    intro acc
    simp only [List.foldl_cons]
    rw [ih, mem_insertSorted, List.mem_cons]
    exact or_left_comm.trans or_assoc.symm

/-- the entry created by importing `m` into a store that has no entry for `m.key` -/
def importedEntry (m : KEntry) : KEntry :=
  { key := m.key, hash := m.hash, simple := m.simple,
    children := m.children.foldl (fun cs c => insertSorted c cs) [] }

theorem kvUpsert_other (st : List KEntry) (k : String) (h : Nat) (f : KEntry → KEntry) (e : KEntry)
    (he : e ∈ st) (hk : e.key ≠ k) : e ∈ kvUpsert st k h f := by
  unfold kvUpsert
  split
  · simp only [List.mem_map]
    exact ⟨e, he, by simp [hk]⟩
  · simp [he]

theorem import_keeps_others (es st : List KEntry) (e : KEntry) (he : e ∈ st) (hk : ∀ m ∈ es, m.key ≠ e.key) :
    e ∈ importEntries st es := by
  unfold importEntries
  exact List.foldlRecOn es _ he fun b ih m hm => kvUpsert_other b m.key m.hash _ e ih (hk m hm).symm

/-- **Delivery.** Importing entries with pairwise distinct keys into a store that has none of these keys
creates, for every imported entry, an entry with the same key, hash, simple value and the same set
of children. -/
theorem import_delivers (es st : List KEntry)
    (hnd : (es.map (·.key)).Nodup) (hfresh : ∀ e ∈ st, ∀ m ∈ es, e.key ≠ m.key) :
    ∀ m ∈ es, importedEntry m ∈ importEntries st es := by
  intro m hm
  have hst : kvFind st m.key = none := kvFind_of_not_key fun hk => by
    obtain ⟨e, he, hek⟩ := List.mem_map.mp hk
    exact hfresh e he m hm hek
  -- `Import` finds no entry under `m.key` and no second one comes with it: it writes `impF m` of the blank entry
  have h := kvFind_import es hnd m.key st
  rw [kvFind_of_mem es hnd m hm, hst] at h
  exact (kvFind_some h).1

theorem importedEntry_faithful (m : KEntry) :
    (importedEntry m).key = m.key ∧ (importedEntry m).hash = m.hash ∧ (importedEntry m).simple = m.simple ∧
    ∀ c, c ∈ (importedEntry m).children ↔ c ∈ m.children := by
  refine ⟨rfl, rfl, rfl, fun c => ?_⟩
  simp [importedEntry, mem_foldl_insertSorted]

/-- **Conservation of a join hand-off.** With a fresh joiner (empty store) and a successor store whose
keys are pairwise distinct, after a successful `transferUp`:
(1) every data entry of `s` with hash in `(prev, j]` is present at `j` with the same key, hash, simple
    value and children set;
(2) every other entry of `s` is still at `s`, unchanged.
That none of the handed-off data entries remains at `s` is `transferUp_source`. -/
theorem transferUp_conserves (net net' : Net) (s j prev : Nat) (nd ndj : Node) (hsj : s ≠ j)
    (hg : net.get s = some nd) (hgj : net.get j = some ndj) (hempty : ndj.store = [])
    (hnd : (nd.store.map (·.key)).Nodup)
    (h : transferUp net s j prev nd.store = some net') :
    (∀ e ∈ nd.store, e.isDeleted = false → between prev e.hash j true = true →
        ∃ ndj', net'.get j = some ndj' ∧ importedEntry e ∈ ndj'.store) ∧
    (∀ e ∈ nd.store, (e.isDeleted = true ∨ between prev e.hash j true = false) →
        ∃ nd', net'.get s = some nd' ∧ e ∈ nd'.store) := by
  constructor
  · intro e he hd hb
    refine ⟨_, handOver_get_dst net net' s j _ ndj hsj h hgj, ?_⟩
    rw [hempty]
    exact import_delivers (rangeKeys nd.store prev j) [] (filter_keys_nodup hnd _) (by simp) e
      ((mem_rangeKeys _ _ _ _).mpr ⟨he, hb, hd⟩)
  · intro e he hcase
    refine ⟨_, handOver_get_src net net' s j _ nd hsj h hg, ?_⟩
    -- with distinct keys, removing the selected entries leaves exactly those that were not selected
    show e ∈ removeKeys nd.store (rangeKeys nd.store prev j)
    unfold rangeKeys
    rw [removeKeys_filter nd.store hnd]
    exact List.mem_filter.mpr ⟨he, by rcases hcase with hc | hc <;> simp [hc]⟩

end Specter.C05
