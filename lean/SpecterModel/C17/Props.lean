import SpecterModel.C16.Props
import SpecterModel.C11.Props
/-!
# C17 — key-range transfer primitives are exact

`RangeKeys`, `Export`/`Import` into an EMPTY store and `RemoveKeys` of the shared back-end model `Specter.Kv`
(tied to kv/memory, kv/aof, kv/sqlite3 differentially by `harness/cmd/c17`), for every back-end `b`, every
well-formed store (every reachable one, `exec_wf`), every hash function into the ring. The ranges rest on C11:
memory uses `chord.Between` (`between_closed_spec`), sqlite the norm/wrap query pair on signed integers, equal to
it below 2^63 (`sqlRange_eq_between`).
-/
namespace Specter.Kv
open Specter.C11

/-! ## ranges: sqlite's predicate is memory's, memory's is `chord.Between`; the contract's is C11's `natBetween` -/

theorem mod64_of_lt {x : Nat} (h : x < 2^63) : x % 2^64 = x :=
  Nat.mod_eq_of_lt (Nat.lt_trans h (by decide))

theorem toNat_ofNat_of_lt {x : Nat} (h : x < 2^63) : (BitVec.ofNat 64 x).toNat = x :=
  (BitVec.toNat_ofNat x 64).trans (mod64_of_lt h)

theorem between_eq_natBetween {lo t hi : Nat} (hl : lo < 2^63) (ht : t < 2^63) (hh : hi < 2^63) :
    between lo t hi = natBetween lo t hi true := by
  unfold between
  rw [between_nat, toNat_ofNat_of_lt hl, toNat_ofNat_of_lt ht, toNat_ofNat_of_lt hh]

theorem sqlInt_of_lt {x : Nat} (h : x < 2^63) : sqlInt x = (x : Int) := by
  unfold sqlInt
  rw [BitVec.toInt_eq_toNat_cond, toNat_ofNat_of_lt h, if_pos (by omega)]

theorem inRing_eq_natBetween (lo t hi : Nat) : Spec.inRing lo t hi = natBetween lo t hi true := by
  unfold Spec.inRing natBetween
  rw [Bool.eq_iff_iff]
  -- `t ≤ hi` against `t < hi ∨ t = hi`; in the non-wrapping branch `t = hi` gives `lo < t` by the branch condition
  split <;> simp only [*, decide_eq_true_eq, Bool.or_eq_true, Bool.and_eq_true, beq_iff_eq,
    Bool.true_and] <;> omega

theorem lt_of_lt_M {x : Nat} (h : x < M) : x < 2^63 := Nat.lt_of_lt_of_le h (by decide)

/-- the sqlite range queries select exactly what `chord.Between(low, ·, high, true)` selects -/
theorem sqlRange_eq_between (lo t hi : Nat) (hl : lo < 2^63) (ht : t < 2^63) (hh : hi < 2^63) :
    sqlRange lo t hi = between lo t hi := by
  -- below 2^63 the signed comparisons of the two SQL queries are the unsigned ones
  rw [between_eq_natBetween hl ht hh]
  simp only [sqlRange, natBetween, sqlInt_of_lt hl, sqlInt_of_lt ht, sqlInt_of_lt hh, mod64_of_lt hl, mod64_of_lt hh,
    gt_iff_lt, Int.ofNat_lt, Int.natCast_inj, Bool.true_and]
  rfl   -- the same comparisons on both sides, `decide (t = hi)` against `t == hi`

theorem between_iff_inClosed (lo t hi : Nat) (hl : lo < M) (ht : t < M) (hh : hi < M) :
    between lo t hi = true ↔ inClosed lo t hi := by
  rw [between_eq_natBetween (lt_of_lt_M hl) (lt_of_lt_M ht) (lt_of_lt_M hh)]
  exact natBetween_closed_iff lo t hi hl ht hh

theorem inRange_iff_inClosed (b : Backend) (lo t hi : Nat) (hl : lo < M) (ht : t < M) (hh : hi < M) :
    inRange b lo t hi = true ↔ inClosed lo t hi := by
  rw [inRange, sqlRange_eq_between lo t hi (lt_of_lt_M hl) (lt_of_lt_M ht) (lt_of_lt_M hh), ite_self]
  exact between_iff_inClosed lo t hi hl ht hh

/-- the executable range predicate of the contract / driver is the C11 interval -/
theorem inRing_iff_inClosed (lo t hi : Nat) (hl : lo < M) (ht : t < M) (hh : hi < M) :
    Spec.inRing lo t hi = true ↔ inClosed lo t hi := by
  rw [inRing_eq_natBetween]
  exact natBetween_closed_iff lo t hi hl ht hh

/-- **C17 range**: exactly the keys holding data with hash in `(low, high]` -/
theorem rangeKeys_exact (b : Backend) (hash : Key → Nat) (s : Store) (wf : WF s) (lo hi : Nat)
    (hl : lo < M) (hh : hi < M) (hhash : ∀ k, hash k < M) (k : Key) :
    k ∈ rangeKeys b hash s lo hi ↔ ((s.ent k).held = true ∧ inClosed lo (hash k) hi) := by
  unfold rangeKeys
  rw [List.mem_filter, Bool.and_eq_true, inRange_iff_inClosed b lo (hash k) hi hl (hhash k) hh]
  exact and_iff_right_of_imp fun h => wf.mem_dom fun e => by rw [e] at h; cases h.1

theorem inClosed_full (l t : Nat) (hl : l < M) (ht : t < M) : inClosed l t l :=
  (natBetween_closed_iff l t l hl ht hl).mp (natBetween_self l t)

/-- `low = high`: everything that holds data -/
theorem rangeKeys_full (b : Backend) (hash : Key → Nat) (s : Store) (wf : WF s) (lo : Nat)
    (hl : lo < M) (hhash : ∀ k, hash k < M) (k : Key) :
    k ∈ rangeKeys b hash s lo lo ↔ (s.ent k).held = true := by
  rw [rangeKeys_exact b hash s wf lo lo hl hl hhash]
  exact and_iff_left (inClosed_full lo (hash k) hl (hhash k))

theorem rangeKeys_nodup (b : Backend) (hash : Key → Nat) (s : Store) (wf : WF s) (lo hi : Nat) :
    (rangeKeys b hash s lo hi).Nodup :=
  wf.nodupDom.filter _

/-- what `Export(keys)` hands to `Import`: each key with its entry -/
def transfer (s : Store) (ks : List Key) : List (Key × Entry) := ks.map fun k => (k, s.ent k)

theorem transfer_eq_zip (s : Store) (ks : List Key) : transfer s ks = ks.zip (exportAll s ks) :=
  List.map_prod_left_eq_zip

theorem transfer_keys (s : Store) (ks : List Key) : (transfer s ks).map Prod.fst = ks := by
  unfold transfer
  rw [List.map_map]
  exact List.map_id ks

theorem importAll_other (b : Backend) (kvs : List (Key × Entry)) (s : Store) (k : Key)
    (h : k ∉ kvs.map Prod.fst) : (importAll b s kvs).ent k = s.ent k := by
  induction kvs generalizing s with
  | nil => rfl
  | cons kv kvs ih =>
    rw [List.map_cons, List.mem_cons, not_or] at h
    rw [importAll_cons, ih _ h.2, Store.upd_ent_other h.1]

theorem importAll_mem (b : Backend) (kvs : List (Key × Entry)) (s : Store) (k : Key) (t : Entry)
    (hn : (kvs.map Prod.fst).Nodup) (h : (k, t) ∈ kvs) :
    (importAll b s kvs).ent k = importEntry b t (s.ent k) := by
  induction kvs generalizing s with
  | nil => cases h
  | cons kv kvs ih =>
    rw [List.map_cons, List.nodup_cons] at hn
    rw [importAll_cons]
    rcases List.mem_cons.mp h with rfl | h'
    · rw [importAll_other b kvs _ k hn.1, Store.upd_ent_same]
    · have hne : k ≠ kv.1 := fun e => hn.1 (e ▸ List.mem_map_of_mem (f := Prod.fst) h')
      rw [ih _ hn.2 h', Store.upd_ent_other hne]

theorem addChildren_of_nodup (new cs : List Bytes) (h : (cs ++ new).Nodup) :
    addChildren cs new = cs ++ new := by
  induction new generalizing cs with
  | nil => exact (List.append_nil cs).symm
  | cons c new ih =>
    have hc : c ∉ cs := fun m => (List.nodup_append.mp h).2.2 c m c List.mem_cons_self rfl
    rw [addChildren_cons, if_neg hc, ih _ (by rwa [List.append_assoc]), List.append_assoc]
    rfl

/-- the data of two entries agree (simple value modulo empty ≡ absent) -/
def Entry.same (e e' : Entry) : Prop :=
  norm e.simple = norm e'.simple ∧ e.children = e'.children ∧ e.lease = e'.lease

/-- kv/sqlite3 `importedSimpleValue` only ever adds an empty value -/
theorem norm_sqlImportedSimple (t : Entry) : norm (sqlImportedSimple t) = norm t.simple := by
  fun_cases sqlImportedSimple t <;> rw [‹t.simple = _›]
  rfl   -- the goal `rw` did not close: nothing came with the key and `some []` was put in, the same after `norm`

theorem importEntry_into_empty (b : Backend) (t : Entry) (h : t.children.Nodup) :
    Entry.same (importEntry b t {}) t ∧ (b.isSql = false → importEntry b t {} = t) := by
  have hc : addChildren [] t.children = t.children := addChildren_of_nodup t.children [] h
  fun_cases importEntry b t {}
  · refine ⟨⟨?_, hc, ?_⟩, fun q => absurd (‹b.isSql = true›.symm.trans q) nofun⟩
    · rw [← norm_sqlImportedSimple t]
      cases sqlImportedSimple t <;> rfl
    · cases t.lease <;> rfl
  · exact ⟨⟨rfl, hc, rfl⟩, fun _ => by rw [hc]⟩

/-- **C17 export/import**: importing the export of `ks` into an empty store reproduces, for every
exported key, the simple value (modulo empty ≡ absent), the prefix children and the lease token. -/
theorem import_export_roundtrip (b : Backend) (s : Store) (wf : WF s) (ks : List Key) (hn : ks.Nodup)
    (k : Key) (hk : k ∈ ks) :
    Entry.same ((importAll b Store.init (transfer s ks)).ent k) (s.ent k) ∧
    (b.isSql = false → (importAll b Store.init (transfer s ks)).ent k = s.ent k) := by
  have hmem : (k, s.ent k) ∈ transfer s ks := List.mem_map.mpr ⟨k, hk, rfl⟩
  rw [importAll_mem b _ _ k (s.ent k) ((transfer_keys s ks).symm ▸ hn) hmem]
  exact importEntry_into_empty b (s.ent k) (wf.nodupCh k)

/-- as answer lists: a second `Export` from the target equals the first one entry by entry -/
theorem export_after_import (b : Backend) (hb : b.isSql = false) (s : Store) (wf : WF s) (ks : List Key)
    (hn : ks.Nodup) : exportAll (importAll b Store.init (transfer s ks)) ks = exportAll s ks :=
  List.map_congr_left fun k hk => (import_export_roundtrip b s wf ks hn k hk).2 hb

/-- … and creates nothing else -/
theorem import_creates_nothing_else (b : Backend) (s : Store) (ks : List Key) (k : Key) (hk : k ∉ ks) :
    (importAll b Store.init (transfer s ks)).ent k = {} := by
  rw [importAll_other b _ _ k ((transfer_keys s ks).symm ▸ hk)]
  rfl

/-- **C17 remove**: all data of the given keys is gone, every other key is untouched -/
theorem removeKeys_exact (s : Store) (ks : List Key) (k : Key) :
    (removeAll s ks).ent k = if k ∈ ks then {} else s.ent k := by
  induction ks generalizing s with
  | nil => rfl
  | cons a ks ih =>
    rw [removeAll_cons, ih, Store.drop_ent]
    by_cases c : k = a <;> simp [c]

theorem removeKeys_dom (s : Store) (wf : WF s) (ks : List Key) (k : Key) :
    k ∈ (removeAll s ks).dom ↔ (k ∈ s.dom ∧ k ∉ ks) := by
  induction ks generalizing s with
  | nil => exact (and_iff_left List.not_mem_nil).symm
  | cons a ks ih =>
    rw [removeAll_cons, ih _ (wf.drop a), List.mem_cons, not_or]
    show k ∈ s.dom.erase a ∧ _ ↔ _
    rw [wf.nodupDom.mem_erase_iff, and_comm (a := k ≠ a), and_assoc]

/-- removed keys disappear from range listings; the others stay exactly as listed before -/
theorem rangeKeys_after_remove (b : Backend) (hash : Key → Nat) (s : Store) (wf : WF s) (ks : List Key)
    (lo hi : Nat) (k : Key) :
    k ∈ rangeKeys b hash (removeAll s ks) lo hi ↔ (k ∈ rangeKeys b hash s lo hi ∧ k ∉ ks) := by
  unfold rangeKeys
  simp only [List.mem_filter, removeKeys_dom s wf, removeKeys_exact]
  by_cases c : k ∈ ks
  · simp [c]
  · simp [c]

/-- any batching of the key list (sqlite: 200 per batch) removes the same -/
theorem removeKeys_chunks (s : Store) (chunks : List (List Key)) :
    removeAll s chunks.flatten = chunks.foldl removeAll s :=
  List.foldl_flatten

/-! ## non-vacuity -/

-- a store with colliding hashes, a wrap-around range and a boundary hash equal to `high`
example :
    let h : Key → Nat := fun k => if k = [1] then 5 else if k = [2] then 5 else if k = [3] then 2^48 - 1 else 9
    let s := exec (step .sqlite h) Store.init
      [.put [1] (some [7]), .pappend [2] [8], .acquire [3] 1000000000 50, .put [4] (some [1]), .delete [4]]
    rangeKeys .sqlite h s (2^48 - 2) 5 = [[1], [2], [3]] ∧ rangeKeys .memory h s 5 5 = [[1], [2], [3]] ∧
    rangeKeys .memory h s 5 (2^48 - 2) = [] := by decide +kernel

example :
    let s := exec (step .sqlite (fun _ => 0)) Store.init
      [.put [1] (some [7]), .pappend [1] [8], .pappend [1] [9], .acquire [1] 1000000000 50, .pappend [2] [3]]
    exportAll (importAll .sqlite Store.init (transfer s [[1], [2]])) [[1], [2], [5]] =
      [⟨some [7], [[8], [9]], 1000000050⟩, ⟨none, [[3]], 0⟩, ⟨none, [], 0⟩] := by decide +kernel

example :
    let s := exec (step .memory (fun _ => 0)) Store.init [.put [1] (some [7]), .pappend [2] [3], .put [3] (some [1])]
    exportAll (removeAll s [[1], [2]]) [[1], [2], [3]] = [{}, {}, ⟨some [1], [], 0⟩] := by decide +kernel

end Specter.Kv
