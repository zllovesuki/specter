import SpecterModel.C41.Model
/-!
# C41 — `explore` level by level, and a faster way to evaluate it

`explore_zero`, `explore_succ`: what one level of `explore` demands, as a statement over all enabled steps; the
soundness of the exploration and its symmetry rest on these, not on the lists `explore` runs through.
`exploreF` demands the same and is cheaper for the kernel: `explore` asks `enabled` of each of the 17 step labels and
builds lists; `exploreF` looks once at the program counter of each of the four ends, which has at most one step to
take, and at the five flags. The kernel evaluations (`Explore`, `ExploreLateP`) run `exploreF`.
-/
namespace Specter.C41
open Gen.C41

section force
variable {α : Type}
theorem fB_eq (b : Bool) (k : Bool → α) : fB b k = k b := by cases b <;> rfl
theorem fDir_eq (d : Dir) (k : Dir → α) : fDir d k = k d := by cases d <;> rfl
theorem fCState_eq (cs : CState) (k : CState → α) : fCState cs k = k cs := by cases cs <;> rfl
theorem fConn_eq (x : Conn) (k : Conn → α) : fConn x k = k x := by cases x <;> rfl
theorem fCl_eq (x : Cl) (k : Cl → α) : fCl x k = k x := by cases x <;> rfl
theorem fEntry_eq (e : Entry) (k : Entry → α) : fEntry e k = k e := by
  rcases e with _ | ⟨x, d⟩
  · rfl
  · simp only [fEntry, fConn_eq, fDir_eq]
theorem fStatus_eq (p : CState × Dir) (k : CState × Dir → α) : fStatus p k = k p := by
  obtain ⟨a, b⟩ := p
  simp only [fStatus, fCState_eq, fDir_eq]
theorem fRes_eq (r : Res) (k : Res → α) : fRes r k = k r := by
  rcases r with (_ | x) | _ | _ <;> simp only [fRes, fConn_eq]
theorem fPC_eq (p : PC) (k : PC → α) : fPC p k = k p := by
  cases p <;> simp only [fPC, fEntry_eq, fStatus_eq, fRes_eq, fB_eq]
theorem fSt_eq (s : St) (k : St → α) : fSt s k = k s := by
  simp only [fSt, fB_eq, fEntry_eq, fPC_eq, fCl_eq]
end force

theorem mem_allSteps (e : Step) : e ∈ allSteps := by
  cases e with
  | snap i | dec i | reap i => cases i <;> decide +kernel
  | reapE x | late x => cases x <;> decide +kernel
  | kill => decide +kernel

theorem mem_enabledSteps {s : St} {e : Step} :
    e ∈ ownSteps.filter (enabled s) ++ envSteps.filter (enabled s) ↔ enabled s e = true := by
  rw [← List.filter_append, List.mem_filter]
  exact and_iff_right (mem_allSteps e)

theorem explore_zero (T : Table) (prop : St → Bool) (s : St) :
    explore T prop 0 s = true ↔ (∀ e, enabled s e = false) ∧ prop s = true := by
  simp [explore, List.filter_eq_nil_iff, mem_allSteps]

theorem explore_succ (T : Table) (prop : St → Bool) (n : Nat) (s : St) :
    explore T prop (n+1) s = true ↔
      (final s = true → prop s = true) ∧ ∀ e, enabled s e = true → explore T prop n (step T s e) = true := by
  have hall : ∀ l : List Step, (l.all fun e => fSt (step T s e) fun s' => explore T prop n s') = true ↔
      ∀ e ∈ l, explore T prop n (step T s e) = true := fun l => by simp only [List.all_eq_true, fSt_eq]
  have hfin : final s = true ↔ ownSteps.filter (enabled s) = [] := by simp [final]
  simp only [hfin, ← mem_enabledSteps]
  rw [explore]
  split
  next h =>
    rw [Bool.and_eq_true, hall, h, List.nil_append]
    exact ⟨fun H => ⟨fun _ => H.1, H.2⟩, fun H => ⟨H.1 rfl, H.2⟩⟩
  next h =>
    rw [hall]
    exact ⟨fun H => ⟨fun h0 => (h h0).elim, H⟩, fun H => H.2⟩

theorem final_iff (s : St) : final s = true ↔ ∀ e ∈ ownSteps, enabled s e = false := by
  simp [final, List.filter_eq_nil_iff]

/-- `c → b`, as a `match` on `c`: one reduction for the kernel, and `b` (a whole sub-exploration) is left alone when
`c` is `false` -/
def impB (c b : Bool) : Bool :=
  match c with
  | true => b
  | false => true

theorem impB_iff (c b : Bool) : impB c b = true ↔ (c = true → b = true) := by
  cases c <;> simp [impB]

/-- `k` at the step that end `i` can take, if there is one -/
def atProc (s : St) (i : Proc) (k : Step → Bool) : Bool :=
  match s.pc i with
  | .idle => impB (i.active s) (k (.snap i))
  | .snapped _ _ => (match s.pc i.peer with | .idle => true | _ => k (.dec i))
  | .done _ _ true false => impB (s.closed i.conn) (k (.reap i))
  | _ => true

def atOwn (s : St) (k : Step → Bool) : Bool :=
  atProc s .Pc k && atProc s .Qc k && atProc s .Qd k && atProc s .Pd k &&
  impB (s.watchP && s.closed .e) (k (.reapE .P)) && impB (s.watchQ && s.closed .e) (k (.reapE .Q))

def atEnv (s : St) (k : Step → Bool) : Bool :=
  impB s.lateP (k (.late .P)) && impB s.lateQ (k (.late .Q)) && impB (s.dieE && !s.closed .e) (k .kill)

theorem atProc_iff (s : St) (i : Proc) (k : Step → Bool) :
    atProc s i k = true ↔ ∀ e ∈ [Step.snap i, .dec i, .reap i], enabled s e = true → k e = true := by
  simp only [atProc, List.forall_mem_cons, List.not_mem_nil, false_imp_iff, implies_true, and_true, enabled]
  rcases s.pc i with _ | _ | ⟨_, _, _ | _, _ | _⟩ <;>
    simp only [impB_iff, Bool.and_true, Bool.and_false, Bool.true_and, Bool.false_and, Bool.false_eq_true,
      false_imp_iff, and_self, and_true, true_and]
  cases s.pc i.peer <;> simp only [Bool.false_eq_true, false_imp_iff, forall_const]

theorem atOwn_iff (s : St) (k : Step → Bool) :
    atOwn s k = true ↔ ∀ e ∈ ownSteps, enabled s e = true → k e = true := by
  have hE (x : Side) : enabled s (.reapE x) = (s.watch x && s.closed .e) := rfl
  simp only [atOwn, atProc_iff, impB_iff, hE, St.watch, ownSteps, allProcs, List.map_cons, List.map_nil,
    List.cons_append, List.nil_append, List.forall_mem_cons, List.not_mem_nil, false_imp_iff, implies_true, and_true,
    Bool.and_eq_true]
  -- the same fourteen conjuncts, by end on the left and by kind of step on the right
  exact iff_of_eq (by ac_rfl)

theorem atEnv_iff (s : St) (k : Step → Bool) :
    atEnv s k = true ↔ ∀ e ∈ envSteps, enabled s e = true → k e = true := by
  simp only [atEnv, Bool.and_eq_true, impB_iff, envSteps, List.forall_mem_cons, List.not_mem_nil, false_imp_iff,
    implies_true, and_true, and_assoc, enabled, St.lateOk]

theorem atOwn_atEnv_iff (s : St) (k : Step → Bool) :
    (atOwn s k && atEnv s k) = true ↔ ∀ e, enabled s e = true → k e = true := by
  simp only [Bool.and_eq_true, atOwn_iff, atEnv_iff]
  constructor
  · intro h e
    exact (List.mem_append.mp (mem_allSteps e)).elim (h.1 e) (h.2 e)
  · intro h
    exact ⟨fun e _ => h e, fun e _ => h e⟩

theorem atOwn_false_iff (s : St) : atOwn s (fun _ => false) = true ↔ final s = true := by
  simp only [atOwn_iff, final_iff, Bool.false_eq_true, imp_false, Bool.not_eq_true]

def exploreF (T : Table) (prop : St → Bool) : Nat → St → Bool
  | 0, s => atOwn s (fun _ => false) && atEnv s (fun _ => false) && prop s
  | n+1, s =>
    impB (atOwn s fun _ => false) (prop s) &&
    ((atOwn s fun e => fSt (step T s e) fun s' => exploreF T prop n s') &&
      atEnv s fun e => fSt (step T s e) fun s' => exploreF T prop n s')

theorem explore_of_exploreF {T : Table} {prop : St → Bool} :
    ∀ {n : Nat} {s : St}, exploreF T prop n s = true → explore T prop n s = true
  | 0, s, h => by
    rw [exploreF, Bool.and_eq_true, atOwn_atEnv_iff] at h
    refine (explore_zero T prop s).mpr ⟨fun e => ?_, h.2⟩
    cases he : enabled s e
    · rfl
    · cases h.1 e he
  | n+1, s, h => by
    rw [exploreF, Bool.and_eq_true, atOwn_atEnv_iff, impB_iff, atOwn_false_iff] at h
    refine (explore_succ T prop n s).mpr ⟨h.1, fun e he => explore_of_exploreF ?_⟩
    have := h.2 e he
    rwa [fSt_eq] at this

end Specter.C41
