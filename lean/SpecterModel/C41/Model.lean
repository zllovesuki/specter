import SpecterModel.C41.Gen
/-!
# C41 — protocol model of the connection-reuse negotiation (`overlay/reuse.go`, `overlay/reaper.go`, and the
close-watchers started by `handleIncoming` / `handleOutgoing` in `overlay/transport.go`)

Two peers P and Q. Connection `c` is dialed by P (outgoing at P, incoming at Q); in the simultaneous-open
scenario (`dual`) Q also dials `d`. `e` is a pre-existing cached connection. Every end of every new
connection runs `reuseConnection`, which is two atomic steps (the keyed RW mutex):

* `snap`  (under RLock): read the own cache entry, send the status `snapshot …`;
* `dec`   (under Lock, after the peer's status arrived): `decide …` with the SNAPSHOT values, except for the
  re-load leaves, which see the entry that is in the cache NOW (`rc` = is there one, `rcdir` = its direction);
  effects: close fresh / close cache / store / delete, result returned to the caller;
  an incoming end that returns an error closes the connection (`AcceptWithListener`, code 406);
* `reap`  (close-watcher goroutine → `reapPeer`): WHICH ends get a close-watcher for the connection they negotiated
  is the fact `watch dir reused` extracted from `handleIncoming` / `handleOutgoing` (`overlay/transport.go`): for the
  code as it is, exactly the ends whose connection came back as new (`handlePeer`), never an end whose connection
  LOST the negotiation (another connection was returned as reused) - the losing connection is closed by the
  negotiation itself, and `reapPeer` reaps by KEY: a watcher on the loser would tear down the cached connection both
  peers just agreed to reuse. Once a watched connection is closed, `reapPeer` runs for it: under the key's Lock it
  looks at the entry that is CACHED at that moment (`loaded`), and — facts `reap loaded` extracted from
  `overlay/reaper.go` — closes the cached entry's connection, closes the triggering connection, deletes the entry;
  (`watch dir true`.returned - a SECOND close-watcher on a connection that is cached already - is not modelled: the
  extracted fact is `false`, theorem `watchers_only_on_stored_connections`);
* `reapE` the same for the close-watcher goroutine of the pre-existing connection `e` (every side that caches
  `e` stored it in an earlier negotiation and therefore runs such a goroutine);
* `late`  a STALE `reapPeer`: a second reap of an older connection `o` to the same peer that died and was
  reaped long ago (the periodic `reaper()` collected `o` as a dead candidate while `o`'s close goroutine
  reaped it too — `reapPeer` runs twice for `o`). It may run at any moment, at most once per side, and only on
  sides where the scenario allows it (`lateP`/`lateQ`); whatever is cached for the peer at that moment is treated
  by `reap loaded` like in an ordinary reap, although it is not the connection that triggered the reap.
* `kill`  the pre-existing connection `e` DIES for a reason outside the negotiation (the peer's end went away, the
  path broke, idle timeout): at any moment, at most once, and only where the scenario allows it (`dieE`). Nothing
  else happens in that step; the close-watchers of `e` (`reapE`) become due at every side that caches `e`, and each
  of them may run before, between or after the snapshot and the decision of a negotiation end of that side - in
  particular an end can report CACHED and find the entry gone when it decides.
  Stale reaps and the death of `e` are environment events: a state is `final` when no negotiation step and no due
  reap is left, whether or not an environment event is still possible.

Every connection remembers what closed it FIRST (`Cl`): the negotiation (`neg`) or the environment (`late`: a
stale reap, or the death of `e`); the closes made by a reap count as whatever closed the connection whose death
triggered that reap. "A reused connection is never closed by the negotiation" is judged on `neg`; without
environment events every close is `neg`.

`snapshot`, `decide` and `reap` are parameters (`Table`); `genTable` is the translation of the current Go source.
Core Lean only.
-/
namespace Specter.C41
open Gen.C41

inductive Conn where
  | e | c | d
deriving DecidableEq, Repr

inductive Side where
  | P | Q
deriving DecidableEq, Repr

/-- one end of one new connection -/
inductive Proc where
  | Pc | Qc | Qd | Pd
deriving DecidableEq, Repr

def Proc.side : Proc → Side
  | .Pc | .Pd => .P
  | .Qc | .Qd => .Q
def Proc.conn : Proc → Conn
  | .Pc | .Qc => .c
  | .Qd | .Pd => .d
def Proc.dir : Proc → Dir
  | .Pc | .Qd => .outgoing
  | .Qc | .Pd => .incoming
/-- the other end of the same connection -/
def Proc.peer : Proc → Proc
  | .Pc => .Qc | .Qc => .Pc | .Qd => .Pd | .Pd => .Qd

structure Table where
  snapshot : Bool → Dir → Dir → CState × Dir
  decide : CState → Dir → Bool → Dir → Dir → Bool → Dir → Act
  reap : Bool → ReapAct
  watch : Dir → Bool → WatchAct

def genTable : Table := ⟨Gen.C41.snapshot, Gen.C41.decide, Gen.C41.reap, Gen.C41.watch⟩

/-- what closed a connection first -/
inductive Cl where
  | open
  | neg     -- the negotiation (508), the accept loop (406), or the reap of a connection that was closed that way
  | late    -- the environment: a stale reap, the death of `e` (`kill`), or the reap of a connection closed that way
deriving DecidableEq, Repr

/-- what `reuseConnection` returned -/
inductive Res where
  | reused (x : Option Conn)     -- `return cache, true, nil`
  | fresh                        -- `return fresh, false, nil` (the caller starts `handlePeer`)
  | err
deriving DecidableEq, Repr

abbrev Entry := Option (Conn × Dir)

inductive PC where
  | idle
  | snapped (snap : Entry) (status : CState × Dir)
  /-- `watched`: this end started a close-watcher (→ `reapPeer`) for the connection it negotiated; `reaped`: that
  watcher has run -/
  | done (status : CState × Dir) (res : Res) (watched : Bool) (reaped : Bool)
deriving DecidableEq, Repr

structure St where
  dual : Bool
  cacheP : Entry
  cacheQ : Entry
  clE : Cl := .open
  clC : Cl := .open
  clD : Cl := .open
  pPc : PC := .idle
  pQc : PC := .idle
  pQd : PC := .idle
  pPd : PC := .idle
  /-- the close-watcher goroutine of the pre-existing connection `e` is still waiting at P / Q -/
  watchP : Bool := false
  watchQ : Bool := false
  /-- a stale reap may still run at P / Q -/
  lateP : Bool := false
  lateQ : Bool := false
  /-- the pre-existing connection `e` may still die for a reason outside the negotiation -/
  dieE : Bool := false
deriving DecidableEq, Repr

def St.pc (s : St) : Proc → PC
  | .Pc => s.pPc | .Qc => s.pQc | .Qd => s.pQd | .Pd => s.pPd
def St.setPc (s : St) (i : Proc) (p : PC) : St :=
  match i with
  | .Pc => { s with pPc := p } | .Qc => { s with pQc := p } | .Qd => { s with pQd := p } | .Pd => { s with pPd := p }
def St.cache (s : St) : Side → Entry
  | .P => s.cacheP | .Q => s.cacheQ
def St.setCache (s : St) (x : Side) (v : Entry) : St :=
  match x with
  | .P => { s with cacheP := v } | .Q => { s with cacheQ := v }
def St.cl (s : St) : Conn → Cl
  | .e => s.clE | .c => s.clC | .d => s.clD
def St.closed (s : St) (x : Conn) : Bool := match s.cl x with | .open => false | _ => true
/-- `CloseWithError`: only the first close of a connection counts -/
def St.close (s : St) (by_ : Cl) (x : Conn) : St :=
  match s.cl x with
  | .open => (match x with | .e => { s with clE := by_ } | .c => { s with clC := by_ } | .d => { s with clD := by_ })
  | _ => s
def St.closeEntry (s : St) (by_ : Cl) : Entry → St
  | some (x, _) => s.close by_ x
  | none => s
def St.watch (s : St) : Side → Bool
  | .P => s.watchP | .Q => s.watchQ
def St.lateOk (s : St) : Side → Bool
  | .P => s.lateP | .Q => s.lateQ

def Proc.active (s : St) : Proc → Bool
  | .Pc | .Qc => true
  | .Qd | .Pd => s.dual

inductive Step where
  | snap (i : Proc) | dec (i : Proc) | reap (i : Proc) | reapE (x : Side) | late (x : Side) | kill
deriving DecidableEq, Repr

def allProcs : List Proc := [.Pc, .Qc, .Qd, .Pd]
/-- the steps of the negotiations and the reaps that are due after them -/
def ownSteps : List Step := allProcs.map .snap ++ allProcs.map .dec ++ allProcs.map .reap ++ [.reapE .P, .reapE .Q]
/-- … and the environment events: the stale reaps, the death of the pre-existing connection -/
def envSteps : List Step := [.late .P, .late .Q, .kill]
def allSteps : List Step := ownSteps ++ envSteps

def PC.status? : PC → Option (CState × Dir)
  | .idle => none
  | .snapped _ st => some st
  | .done st _ _ _ => some st

def enabled (s : St) : Step → Bool
  | .snap i => i.active s && (match s.pc i with | .idle => true | _ => false)
  | .dec i => (match s.pc i with | .snapped _ _ => true | _ => false) &&
      (match s.pc i.peer with | .idle => false | _ => true)
  | .reap i => (match s.pc i with | .done _ _ true false => true | _ => false) && s.closed i.conn
  | .reapE x => s.watch x && s.closed .e
  | .late x => s.lateOk x
  | .kill => s.dieE && !s.closed .e

def entryDir : Entry → Dir
  | some (_, d) => d
  | none => .incoming      -- never read by the generated table when the entry is absent

/-- `reapPeer` at side `x` (atomic: the key's Lock): `trigger` = the connection whose death started it (`none`
for the stale reap of a connection outside the model, which is closed already), `by_` = what the closes count as
(a reap inherits it from the death that triggered it) -/
def reapPeer (T : Table) (s : St) (x : Side) (trigger : Option Conn) (by_ : Cl) : St :=
  let ent := s.cache x
  let a := T.reap ent.isSome
  let s := if a.closeCached then s.closeEntry by_ ent else s
  let s := match a.closeTrigger, trigger with
    | true, some q => s.close by_ q
    | _, _ => s
  if a.del then s.setCache x none else s

/-- does the end `i` start a close-watcher for the connection it negotiated? `flag` = the `reused` flag that
`reuseConnection` returned, `res` = what it returned: the own connection (as new, or found in the cache) or another
one. Facts `T.watch` of `handleIncoming` / `handleOutgoing`. -/
def ownWatched (T : Table) (i : Proc) (flag : Bool) : Res → Bool
  | .fresh => (T.watch i.dir flag).returned
  | .reused x => if x = some i.conn then (T.watch i.dir flag).returned else (T.watch i.dir flag).negotiated
  | .err => false

def step (T : Table) (s : St) : Step → St
  | .snap i =>
    let snap := s.cache i.side
    s.setPc i (.snapped snap (T.snapshot snap.isSome (entryDir snap) i.dir))
  | .dec i =>
    match s.pc i, (s.pc i.peer).status? with
    | .snapped snap mine, some (ps, pd) =>
      let cur := s.cache i.side
      let act := T.decide ps pd snap.isSome (entryDir snap) i.dir cur.isSome (entryDir cur)
      let cacheVar : Entry := if act.reload then cur else snap
      let s := if act.closeFresh then s.close .neg i.conn else s
      let s := if act.closeCache then s.closeEntry .neg cacheVar else s
      let s := if act.del then s.setCache i.side none else s
      let s := match act.store with
        | .no => s
        | .fresh => s.setCache i.side (some (i.conn, i.dir))
        | .cache => s.setCache i.side cacheVar
      let res : Res := match act.err, act.ret with
        | .nil, .cache => .reused (cacheVar.map (·.1))
        | .nil, .fresh => .fresh
        | _, _ => .err
      -- handleIncoming error ⇒ AcceptWithListener closes the connection (406)
      let s := match res, i.dir with
        | .err, .incoming => s.close .neg i.conn
        | _, _ => s
      s.setPc i (.done mine res (ownWatched T i act.reused res) false)
    | _, _ => s
  | .reap i =>
    match s.pc i with
    | .done st res true false =>
      (reapPeer T s i.side (some i.conn) (s.cl i.conn)).setPc i (.done st res true true)
    | _ => s
  | .reapE x =>
    let s := reapPeer T s x (some .e) s.clE
    match x with
    | .P => { s with watchP := false } | .Q => { s with watchQ := false }
  | .late x =>
    let s := reapPeer T s x none .late
    match x with
    | .P => { s with lateP := false } | .Q => { s with lateQ := false }
  | .kill => { s.close .late .e with dieE := false }

/-- run an arbitrary list of step labels; labels that are not enabled are skipped -/
def run (T : Table) (s : St) : List Step → St
  | [] => s
  | e :: l => if enabled s e then run T (step T s e) l else run T s l

/-- nothing left to do: every negotiation finished, every due reap done (an environment event may still be
possible) -/
def final (s : St) : Bool := (ownSteps.filter (enabled s)).isEmpty

/-! Evaluation helpers: `fX v k = k v` (lemmas `f*_eq` in ExploreF), but reducing `fX v k` forces `v` to a
constructor first. They keep the states of the exhaustive exploration small literal terms, which is what makes
its kernel evaluation (`decide`) cheap. -/
section force
variable {α : Type}
def fB (b : Bool) (k : Bool → α) : α := match b with | true => k true | false => k false
def fDir (d : Dir) (k : Dir → α) : α := match d with | .incoming => k .incoming | .outgoing => k .outgoing
def fCState (cs : CState) (k : CState → α) : α := match cs with | .cached => k .cached | .fresh => k .fresh
def fConn (x : Conn) (k : Conn → α) : α := match x with | .e => k .e | .c => k .c | .d => k .d
def fCl (x : Cl) (k : Cl → α) : α := match x with | .open => k .open | .neg => k .neg | .late => k .late
def fEntry (e : Entry) (k : Entry → α) : α :=
  match e with
  | none => k none
  | some (x, d) => fConn x fun x => fDir d fun d => k (some (x, d))
def fStatus (p : CState × Dir) (k : CState × Dir → α) : α :=
  match p with
  | (a, b) => fCState a fun a => fDir b fun b => k (a, b)
def fRes (r : Res) (k : Res → α) : α :=
  match r with
  | .reused none => k (.reused none)
  | .reused (some x) => fConn x fun x => k (.reused (some x))
  | .fresh => k .fresh
  | .err => k .err
def fPC (p : PC) (k : PC → α) : α :=
  match p with
  | .idle => k .idle
  | .snapped e st => fEntry e fun e => fStatus st fun st => k (.snapped e st)
  | .done st r w b => fStatus st fun st => fRes r fun r => fB w fun w => fB b fun b => k (.done st r w b)
def fSt (s : St) (k : St → α) : α :=
  fB s.dual fun a => fEntry s.cacheP fun b => fEntry s.cacheQ fun c => fCl s.clE fun d => fCl s.clC fun e =>
  fCl s.clD fun f => fPC s.pPc fun g => fPC s.pQc fun h => fPC s.pQd fun i => fPC s.pPd fun j =>
  fB s.watchP fun wp => fB s.watchQ fun wq => fB s.lateP fun lp => fB s.lateQ fun lq => fB s.dieE fun de =>
  k ⟨a, b, c, d, e, f, g, h, i, j, wp, wq, lp, lq, de⟩
end force

/-- exhaustive exploration of all interleavings from `s` (fuel = bound on remaining steps): `prop` is demanded in
every final state on the way (environment events may still follow a final state) -/
def explore (T : Table) (prop : St → Bool) : Nat → St → Bool
  | 0, s => (allSteps.filter (enabled s)).isEmpty && prop s
  | n+1, s =>
    match ownSteps.filter (enabled s) with
    | [] => prop s && (envSteps.filter (enabled s)).all fun e => fSt (step T s e) fun s' => explore T prop n s'
    | en => (en ++ envSteps.filter (enabled s)).all fun e => fSt (step T s e) fun s' => explore T prop n s'

/-- the connection a side caches -/
def St.cached (s : St) (x : Side) : Option Conn := (s.cache x).map (·.1)

/-- T1: the peers do not cache different connections for each other -/
def noSplitBrain (s : St) : Bool :=
  match s.cached .P, s.cached .Q with
  | some x, some y => x == y
  | _, _ => true

/-- T2: a connection handed back as "reused" was not closed by the negotiation(s) (nor by a reap that follows
them; a stale reap of an older connection and the death of the pre-existing connection are not part of the
negotiation) -/
def reusedNotClosed (s : St) : Bool :=
  allProcs.all fun i => match s.pc i with
    | .done _ (.reused (some x)) _ _ => (match s.cl x with | .neg => false | _ => true)
    | _ => true

/-- T3: a side caches a NEW connection only if the other side caches the same one -/
def newOnlyIfPeer (s : St) : Bool :=
  [(Side.P, Side.Q), (Side.Q, Side.P)].all fun (x, y) => match s.cached x with
    | some .c => s.cached y == some .c
    | some .d => s.cached y == some .d
    | _ => true

/-- both sides stored a fresh connection, and not the same one (simultaneous-open cross) -/
def crossStore (s : St) : Bool :=
  let stored (i : Proc) : Bool := match s.pc i with | .done _ .fresh _ _ => true | _ => false
  (stored .Pc && stored .Qd) || (stored .Pd && stored .Qc)

/-- the three properties; T2 is demanded unless the run is a simultaneous-open cross store -/
def good (s : St) : Bool := noSplitBrain s && newOnlyIfPeer s && (reusedNotClosed s || crossStore s)
/-- the three properties, T2 unconditionally -/
def goodStrict (s : St) : Bool := noSplitBrain s && newOnlyIfPeer s && reusedNotClosed s

/-- what is demanded of a final state, by initial caches: T2 unconditionally unless both caches are empty -/
def goodFor (pre : Entry × Entry) : St → Bool :=
  match pre with
  | (none, none) => good
  | _ => goodStrict

/-- consistent pre-existing cache states: at most the one old connection `e`, seen from opposite directions -/
def preStates : List (Entry × Entry) :=
  [ (none, none),
    (some (.e, .outgoing), none), (some (.e, .incoming), none),
    (none, some (.e, .incoming)), (none, some (.e, .outgoing)),
    (some (.e, .outgoing), some (.e, .incoming)), (some (.e, .incoming), some (.e, .outgoing)) ]

/-- both peers cache the pre-existing connection (the further negotiation is redundant) -/
def sharedStates : List (Entry × Entry) :=
  [ (some (.e, .outgoing), some (.e, .incoming)), (some (.e, .incoming), some (.e, .outgoing)) ]

/-- the shared pre-existing connection is still cached by both peers, and open -/
def keepsShared (s : St) : Bool := s.cached .P == some .e && s.cached .Q == some .e && !s.closed .e

/-- which sides may see a stale reap: none, or one of the two -/
def lateConfigs : List (Bool × Bool) := [(false, false), (true, false), (false, true)]

/-- the environment scenarios covered by the theorems, `(stale reap at P, stale reap at Q), e may die`: at most ONE
environment event per run - none, a stale reap at P, a stale reap at Q, or the death of the pre-existing connection -/
def envConfigs : List ((Bool × Bool) × Bool) :=
  [((false, false), false), ((true, false), false), ((false, true), false), ((false, false), true)]

/-- `die`: the pre-existing connection may die during the run (it has to exist: some side caches it) -/
def init (dual : Bool) (pre : Entry × Entry) (late : Bool × Bool := (false, false)) (die : Bool := false) : St :=
  { dual := dual, cacheP := pre.1, cacheQ := pre.2, watchP := pre.1.isSome, watchQ := pre.2.isSome,
    lateP := late.1, lateQ := late.2, dieE := die && (pre.1.isSome || pre.2.isSome) }

end Specter.C41
