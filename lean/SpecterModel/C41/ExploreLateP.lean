import SpecterModel.C41.ExploreF
/-!
# C41 — exhaustive exploration: two simultaneous dials and a stale reap at P (kernel-evaluated)

ONE stale `reapPeer` at P (a second reap of an older, long dead connection) at any point of any interleaving.
One evaluation for all pre-existing cache states: the kernel remembers the states it has explored for as long as it
checks one theorem, and runs from different pre-states meet (about 3 GB).
-/
namespace Specter.C41
open Gen.C41

theorem exploreF_dual_lateP : ∀ pre ∈ preStates, exploreF genTable good 18 (init true pre (true, false)) = true := by
  decide +kernel

end Specter.C41
