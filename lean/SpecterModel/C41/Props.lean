import SpecterModel.C41.Explore
import SpecterModel.C41.ExploreLateP
/-!
# C41 — simultaneous peer connections and the shared cached connection

The protocol model of `Model.lean` instantiated with the decision table GENERATED from `overlay/reuse.go`
(`Gen.lean`). All theorems quantify over ALL lists of step labels (`run` skips labels that are not enabled), i.e.
over all interleavings of the (two or four) concurrent negotiations and the reaps, over all consistent
pre-existing cache states `preStates`, and over the environment scenarios `envConfigs`: no environment event, or ONE
of: a stale `reapPeer` — a second reap of an older, long dead connection — at P or at Q, or the death of the
pre-existing connection `e` (closed from outside the negotiation, then reaped by its close-watchers at both sides),
at any point of the schedule — in particular between the snapshot (the CACHED report) and the decision of a
negotiation end. They are proved by an exhaustive exploration evaluated by the kernel (`exploreF … = true` by
`decide`, modules `Explore`, `ExploreLateP`; of two scenarios of two dials that differ only by the names of the peers
one is evaluated, the other follows by `explore_swap`, module `Symm`) and lifted to arbitrary schedules by
`explore_of_exploreF` and `explore_sound`. Runs with MORE than one environment event (death of `e` and a stale reap,
two stale reaps) are not covered by the theorems; the harness explores them at run time.

What `reapPeer` does with the entry that is cached when it runs is GENERATED from `overlay/reaper.go`
(`Gen.C41.reap`): `reap_evicts_only_what_it_closes` is the local fact that explains the stale-reap theorems (their
proofs are evaluations and do not use it), and `evictOnlyTable` shows that without it (`reapPeer` deleting the entry but
closing only the connection that triggered the reap) `cache_new_only_if_peer_does` fails after a stale reap.

RESULT. `no_split_brain` and `cache_new_only_if_peer_does` hold in every final state. "A reused connection is
never closed by the negotiation" holds for a single dial (`reused_never_closed_single`), and for a
simultaneous open whenever one side already holds a cached connection (`reused_never_closed_cached`), but NOT
for a simultaneous open from empty caches: `simultaneous_open_counterexample` is a schedule of the generated
table in which each peer stores its own outgoing connection and closes the other one while the other peer hands
exactly that connection back as "reused". `reused_never_closed_unless_cross` shows that this cross store is the
ONLY way the property fails.
-/
namespace Specter.C41
open Gen.C41

/-- **Lifting lemma**: from the exploration to EVERY list of step labels. -/
theorem explore_sound (T : Table) (prop : St → Bool) : ∀ (l : List Step) (n : Nat) (s : St),
    explore T prop n s = true → final (run T s l) = true → prop (run T s l) = true := by
  intro l n s h hf
  fun_induction run T s l generalizing n with
  | case1 s =>
    -- no label left
    cases n with
    | zero => exact ((explore_zero T prop s).mp h).2
    | succ n => exact ((explore_succ T prop n s).mp h).1 hf
  | case2 s e l he ih =>
    -- `e` is enabled: one level down
    cases n with
    | zero => simp [((explore_zero T prop s).mp h).1 e] at he
    | succ n => exact ih n (((explore_succ T prop n s).mp h).2 e he) hf
  | case3 s e l he ih =>
    -- `e` is skipped
    exact ih n h hf

theorem good_iff (s : St) : good s = true ↔
    noSplitBrain s = true ∧ newOnlyIfPeer s = true ∧ (reusedNotClosed s = true ∨ crossStore s = true) := by
  simp only [good, Bool.and_eq_true, Bool.or_eq_true, and_assoc]

theorem goodStrict_iff (s : St) :
    goodStrict s = true ↔ noSplitBrain s = true ∧ newOnlyIfPeer s = true ∧ reusedNotClosed s = true := by
  simp only [goodStrict, Bool.and_eq_true, and_assoc]

theorem goodStrict_good (s : St) (h : goodStrict s = true) : good s = true :=
  have ⟨h1, h2, h3⟩ := (goodStrict_iff s).mp h
  (good_iff s).mpr ⟨h1, h2, .inl h3⟩

theorem goodFor_good (pre : Entry × Entry) (s : St) (h : goodFor pre s = true) : good s = true := by
  unfold goodFor at h
  split at h
  · exact h
  · exact goodStrict_good s h

theorem exploreF_sound {T : Table} {prop : St → Bool} {n : Nat} {s : St} (h : exploreF T prop n s = true)
    (l : List Step) (hf : final (run T s l) = true) : prop (run T s l) = true :=
  explore_sound T prop l n s (explore_of_exploreF h) hf

theorem explore_dual : ∀ pre ∈ preStates, explore genTable (goodFor pre) 18 (init true pre) = true :=
  explore_of_halfStates goodFor_swap 18 false fun pre hp => explore_of_exploreF (exploreF_dual pre hp)

/-- two simultaneous dials and ONE environment event: the stale reap at Q is the stale reap at P (`exploreF_dual_lateP`),
seen from the other peer -/
theorem explore_dual_lateQ : ∀ pre ∈ preStates, explore genTable good 18 (init true pre (false, true)) = true :=
  fun pre hp => explore_init_swap good_swap 18 pre (false, true) false
    (explore_of_exploreF (exploreF_dual_lateP _ (swapPre_mem_preStates pre hp)))

theorem explore_dual_die : ∀ pre ∈ preStates, explore genTable good 18 (init true pre (false, false) true) = true :=
  explore_of_halfStates (fun _ => good_swap) 18 true fun pre hp => explore_of_exploreF (exploreF_dual_die pre hp)

theorem goodStrict_single (pre : Entry × Entry) (hp : pre ∈ preStates) (env : (Bool × Bool) × Bool)
    (he : env ∈ envConfigs) (l : List Step)
    (hf : final (run genTable (init false pre env.1 env.2) l) = true) :
    goodStrict (run genTable (init false pre env.1 env.2) l) = true :=
  exploreF_sound (exploreF_single env he pre hp) l hf

/-- Every final state of every run of every covered scenario is `good`; the end results that speak of all scenarios are
its components. -/
theorem good_of (dual : Bool) (pre : Entry × Entry) (hp : pre ∈ preStates) (env : (Bool × Bool) × Bool)
    (he : env ∈ envConfigs) (l : List Step)
    (hf : final (run genTable (init dual pre env.1 env.2) l) = true) :
    good (run genTable (init dual pre env.1 env.2) l) = true := by
  cases dual with
  | false => exact goodStrict_good _ (goodStrict_single pre hp env he l hf)
  | true =>
    simp only [envConfigs, List.mem_cons, List.not_mem_nil, or_false] at he
    rcases he with rfl | rfl | rfl | rfl
    · exact goodFor_good pre _ (explore_sound _ _ l 18 _ (explore_dual pre hp) hf)
    · exact exploreF_sound (exploreF_dual_lateP pre hp) l hf
    · exact explore_sound _ _ l 18 _ (explore_dual_lateQ pre hp) hf
    · exact explore_sound _ _ l 18 _ (explore_dual_die pre hp) hf

/-- After any interleaving of one dial or of two simultaneous dials, with at most one environment
event at any point: if both peers cache a connection for each other, it is the same connection. -/
theorem no_split_brain (dual : Bool) (pre : Entry × Entry) (hp : pre ∈ preStates) (env : (Bool × Bool) × Bool)
    (he : env ∈ envConfigs) (l : List Step)
    (hf : final (run genTable (init dual pre env.1 env.2) l) = true) :
    noSplitBrain (run genTable (init dual pre env.1 env.2) l) = true :=
  ((good_iff _).mp (good_of dual pre hp env he l hf)).1

/-- In every final state a peer caches a new connection (`c` or `d`) only if
the other peer caches the same connection — also after a stale reap: when `reapPeer` runs for an older dead
connection and evicts the live new connection from one cache, the other peer's cache loses it as well (the evicted
connection is closed, the other side's close-watcher reaps it), and also when the pre-existing connection dies and
is reaped at one side between that side's CACHED report and its decision: the deciding end acts on its snapshot,
closes the new connection and returns the dead cached one; it never keeps the new connection for itself alone. -/
theorem cache_new_only_if_peer_does (dual : Bool) (pre : Entry × Entry) (hp : pre ∈ preStates)
    (env : (Bool × Bool) × Bool) (he : env ∈ envConfigs) (l : List Step)
    (hf : final (run genTable (init dual pre env.1 env.2) l) = true) :
    newOnlyIfPeer (run genTable (init dual pre env.1 env.2) l) = true :=
  ((good_iff _).mp (good_of dual pre hp env he l hf)).2.1

/-- With a single dial, no connection handed back as "reused" is closed by the
negotiation (with or without an environment event; a reused pre-existing connection may of course have died by
itself). -/
theorem reused_never_closed_single (pre : Entry × Entry) (hp : pre ∈ preStates) (env : (Bool × Bool) × Bool)
    (he : env ∈ envConfigs) (l : List Step)
    (hf : final (run genTable (init false pre env.1 env.2) l) = true) :
    reusedNotClosed (run genTable (init false pre env.1 env.2) l) = true :=
  ((goodStrict_iff _).mp (goodStrict_single pre hp env he l hf)).2.2

/-- With two simultaneous dials and no environment event, if at least one peer
already holds a cached connection, no reused connection is closed. (With a stale reap or the death of the cached
connection this is false: the caches can be empty before the dials start, which is the simultaneous open from empty
caches again.) -/
theorem reused_never_closed_cached (pre : Entry × Entry) (hp : pre ∈ preStates) (hne : pre ≠ (none, none))
    (l : List Step) (hf : final (run genTable (init true pre) l) = true) :
    reusedNotClosed (run genTable (init true pre) l) = true := by
  have := explore_sound _ _ l 18 _ (explore_dual pre hp) hf
  have hs : goodFor pre = goodStrict := by
    unfold goodFor
    split
    · exact absurd rfl hne
    · rfl
  rw [hs] at this
  exact ((goodStrict_iff _).mp this).2.2

/-- In general a reused connection can be closed only in a
simultaneous-open cross store (both peers stored a fresh connection, and not the same one). -/
theorem reused_never_closed_unless_cross (dual : Bool) (pre : Entry × Entry) (hp : pre ∈ preStates)
    (env : (Bool × Bool) × Bool) (he : env ∈ envConfigs) (l : List Step)
    (hf : final (run genTable (init dual pre env.1 env.2) l) = true) :
    reusedNotClosed (run genTable (init dual pre env.1 env.2) l) = true ∨
      crossStore (run genTable (init dual pre env.1 env.2) l) = true :=
  ((good_iff _).mp (good_of dual pre hp env he l hf)).2.2

/-- The extracted facts of `reapPeer`: when an entry is cached for the peer,
`reapPeer` removes it from the cache and closes ITS connection — whichever connection triggered the reap. This is
what makes a stale reap harmless: the other peer learns that the evicted connection is gone. -/
theorem reap_evicts_only_what_it_closes :
    (Gen.C41.reap true).del = true ∧ (Gen.C41.reap true).closeCached = true := by decide +kernel

/-- The violating schedule: all four ends take their snapshot (nothing cached), P's outgoing end stores `c`,
Q's outgoing end stores `d`, then P's incoming end finds `c`, closes `d` and returns `c` as reused, and Q's
incoming end finds `d`, closes `c` and returns `d` as reused. -/
def crossSchedule : List Step :=
  [.snap .Pc, .snap .Qc, .snap .Qd, .snap .Pd, .dec .Pc, .dec .Qd, .dec .Pd, .dec .Qc]

/-- The property "reused never closed" FAILS for the code as it is: -/
theorem simultaneous_open_counterexample :
    let s := run genTable (init true (none, none)) crossSchedule
    s.pc .Pd = .done (.fresh, .incoming) (.reused (some .c)) false false ∧ s.closed .c = true ∧
    s.pc .Qc = .done (.fresh, .incoming) (.reused (some .d)) false false ∧ s.closed .d = true ∧
    reusedNotClosed s = false ∧ crossStore s = true := by decide +kernel

/-! ### close-watchers: which connections are reaped when they close (facts of `overlay/transport.go`)

`reapPeer` reaps by KEY: it deletes and closes whatever is cached for the peer when it runs. The connection that
LOSES a negotiation (another connection is returned as reused) is closed by the negotiation itself; a close-watcher
on it would therefore always fire, and tear down the cached connection both peers just agreed to reuse. -/

/-- The extracted facts of `handleIncoming` / `handleOutgoing`: an end
starts a close-watcher exactly when `reuseConnection` reports the connection as new (`reused = false`, `handlePeer`
for the returned connection); when it reports a reused connection, no watcher is started - neither a second one for
the returned (cached) connection nor one for the negotiated connection that lost. And the `reused` flag of every
successful row of the decision table says what the row returns (`true` iff the cache entry), which is why the model
reads the flag's consequences off the result. -/
theorem watchers_only_on_stored_connections :
    (∀ d, Gen.C41.watch d true = { returned := false, negotiated := false }) ∧
    (∀ d, (Gen.C41.watch d false).returned = true) ∧
    (∀ ps pd cached cdir dir rc rcdir, (Gen.C41.decide ps pd cached cdir dir rc rcdir).err = .nil →
      ((Gen.C41.decide ps pd cached cdir dir rc rcdir).reused = true ↔
        (Gen.C41.decide ps pd cached cdir dir rc rcdir).ret = .cache)) := by
  refine ⟨fun d => by cases d <;> rfl, fun d => by cases d <;> rfl, ?_⟩
  intro ps pd cached cdir dir rc rcdir
  cases ps <;> cases pd <;> cases cached <;> cases cdir <;> cases dir <;> cases rc <;> cases rcdir <;> decide

/-- Both peers cache the pre-existing connection `e` and negotiate
one further connection, or two simultaneously (a dial that raced with the cache being populated, a second caller, both
peers dialing each other); no environment event. Whatever the interleaving of the negotiation ends and of the reaps:
in every final state BOTH peers still cache `e` and `e` is open - the close of the losing connection(s) has no
consequence for the connection the peers agreed to reuse. -/
theorem shared_connection_survives_further_negotiation (dual : Bool) (pre : Entry × Entry)
    (hp : pre ∈ sharedStates) (l : List Step) (hf : final (run genTable (init dual pre) l) = true) :
    (run genTable (init dual pre) l).cached .P = some .e ∧ (run genTable (init dual pre) l).cached .Q = some .e ∧
      (run genTable (init dual pre) l).closed .e = false := by
  have hd : dual ∈ [false, true] := by cases dual <;> simp
  have := exploreF_sound (exploreF_shared dual hd pre hp) l hf
  simp only [keepsShared, Bool.and_eq_true, beq_iff_eq, Bool.not_eq_true'] at this
  exact ⟨this.2.1.1, this.2.1.2, this.2.2⟩

/-- non-vacuity: such a run, with its final state -/
example : let s := run genTable (init false (some (.e, .incoming), some (.e, .outgoing))) [.snap .Pc, .snap .Qc, .dec .Pc, .dec .Qc]
    (some (Conn.e, Dir.incoming), some (Conn.e, Dir.outgoing)) ∈ sharedStates ∧ final s = true ∧
    s.pc .Qc = .done (.cached, .outgoing) (.reused (some .e)) false false ∧ s.cl .c = .neg ∧ keepsShared s = true := by decide +kernel

/-- the generated table, except that `handleIncoming` also starts a close-watcher (→ `reapPeer`) for an accepted
connection that LOST the negotiation (it assumes that `reapPeer` only releases the connection it is called for) -/
def loserWatchTable : Table :=
  { genTable with watch := fun d r => match d, r with
      | .incoming, true => { returned := false, negotiated := true }
      | _, _ => Gen.C41.watch d r }

/-- … then the redundant negotiation destroys the shared connection: P closes the losing `c` (508), Q's watcher on
`c` fires and `reapPeer` evicts and closes the cached `e` at Q, P's close-watcher of `e` evicts it at P: both
caches end empty and the connection both ends returned as reused was closed by the negotiation. -/
def loserSchedule : List Step := [.snap .Pc, .snap .Qc, .dec .Pc, .dec .Qc, .reap .Qc, .reapE .P, .reapE .Q]
example : let s := run loserWatchTable (init false (some (.e, .outgoing), some (.e, .incoming))) loserSchedule
    final s = true ∧ s.cached .P = none ∧ s.cached .Q = none ∧ s.cl .e = .neg ∧
    s.pc .Pc = .done (.cached, .outgoing) (.reused (some .e)) false false ∧
    s.pc .Qc = .done (.cached, .incoming) (.reused (some .e)) true true ∧
    reusedNotClosed s = false ∧ keepsShared s = false := by decide +kernel
/-- … and it is not final before Q's watcher has run: the reap of the losing connection is DUE -/
example : let s := run loserWatchTable (init false (some (.e, .outgoing), some (.e, .incoming))) (loserSchedule.take 4)
    final s = false ∧ enabled s (.reap .Qc) = true := by decide +kernel
/-- from empty caches (nothing is ever returned as reused by a single dial) the two tables cannot be told apart -/
example : explore loserWatchTable goodStrict 18 (init false (none, none)) = true := by decide +kernel

/-! ### non-vacuity -/

/-- a single dial from empty caches converges on `c` -/
example : let s := run genTable (init false (none, none)) [.snap .Pc, .snap .Qc, .dec .Pc, .dec .Qc]
    final s = true ∧ s.cached .P = some .c ∧ s.cached .Q = some .c ∧ s.closed .c = false := by decide +kernel
/-- a simultaneous open that converges: both peers end with `c`, `d` is closed, nobody reuses a closed one -/
example : let s := run genTable (init true (none, none)) [.snap .Pc, .snap .Qc, .snap .Qd, .snap .Pd, .dec .Pc, .dec .Qc, .dec .Pd, .dec .Qd]
    final s = true ∧ s.cached .P = some .c ∧ s.cached .Q = some .c ∧ s.closed .d = true ∧
    reusedNotClosed s = true := by decide +kernel
/-- both cached the old connection: the new one is closed, the old one is reused by both and stays open -/
example : let s := run genTable (init false (some (.e, .outgoing), some (.e, .incoming))) [.snap .Pc, .snap .Qc, .dec .Qc, .dec .Pc]
    final s = true ∧ s.pc .Pc = .done (.cached, .outgoing) (.reused (some .e)) false false ∧ s.closed .e = false ∧
    s.closed .c = true := by decide +kernel
/-- after the cross store both peers reap: final caches are empty (no split brain, nothing new cached) -/
example : let s := run genTable (init true (none, none)) (crossSchedule ++ [.reap .Pc, .reap .Qd])
    final s = true ∧ s.cached .P = none ∧ s.cached .Q = none := by decide +kernel

/-! ### the direction of the re-loaded entry (`rcdir`) is really threaded through the model

`decide`'s last argument is the direction of the entry that the re-load finds. The table generated from the
current source does not read it. A table that honours the re-loaded entry only when it is an INCOMING one in the
branch 'other: fresh outgoing, us: new incoming' (and is the generated one everywhere else) loses the property:
after `c` has been stored by both peers, P's incoming end of `d` overwrites `c` (an outgoing entry) with `d`, Q's
outgoing end closes `d` and keeps `c` — the peers cache different connections, and after the reap Q caches the new
connection `c` alone. -/

/-- the generated table, except that the incoming re-check only honours an incoming entry -/
def incomingOnlyTable : Table :=
  ⟨Gen.C41.snapshot, fun ps pd cached cdir dir rc rcdir =>
    match ps, pd, cached, dir, rc, rcdir with
    | .fresh, .outgoing, false, .incoming, true, .outgoing => Gen.C41.decide ps pd cached cdir dir false rcdir
    | _, _, _, _, _, _ => Gen.C41.decide ps pd cached cdir dir rc rcdir, Gen.C41.reap, Gen.C41.watch⟩

def overwriteSchedule : List Step :=
  [.snap .Pc, .snap .Qc, .snap .Qd, .snap .Pd, .dec .Pc, .dec .Qc, .dec .Qd, .dec .Pd]

example : let s := run incomingOnlyTable (init true (none, none)) overwriteSchedule
    s.cached .P = some .d ∧ s.cached .Q = some .c ∧ noSplitBrain s = false := by decide +kernel
example : let s := run incomingOnlyTable (init true (none, none)) (overwriteSchedule ++ [.reap .Pd])
    final s = true ∧ s.cached .P = none ∧ s.cached .Q = some .c ∧ s.closed .c = false ∧
    newOnlyIfPeer s = false := by decide +kernel
/-- the same schedule over the generated table converges on `c` -/
example : let s := run genTable (init true (none, none)) overwriteSchedule
    final s = true ∧ s.cached .P = some .c ∧ s.cached .Q = some .c ∧ good s = true := by decide +kernel

/-! ### stale reaps: non-vacuity and sensitivity -/

/-- both peers cache the new connection `c`, then a stale reap runs at P. With the generated facts `c` is closed and
evicted at P; Q's close-watcher is due, and once it has reaped `c` (`staleAfterConvergence`) both caches are empty. -/
example : let s := run genTable (init false (none, none) (true, false)) [.snap .Pc, .snap .Qc, .dec .Pc, .dec .Qc, .late .P]
    final s = false ∧ s.cached .P = none ∧ s.cached .Q = some .c ∧ s.cl .c = .late := by decide +kernel
def staleAfterConvergence : List Step :=
  [.snap .Pc, .snap .Qc, .dec .Pc, .dec .Qc, .late .P, .reap .Qc, .reap .Pc]
example : let s := run genTable (init false (none, none) (true, false)) staleAfterConvergence
    final s = true ∧ s.cached .P = none ∧ s.cached .Q = none ∧ good s = true := by decide +kernel
/-- a stale reap in the middle of a simultaneous open that hits the pre-existing connection -/
def staleInTheMiddle : List Step :=
  [.snap .Pc, .snap .Qd, .late .Q, .snap .Qc, .snap .Pd, .reapE .P, .dec .Pc, .dec .Qc, .dec .Qd, .dec .Pd, .reapE .Q]
example : let s := run genTable (init true (some (.e, .outgoing), some (.e, .incoming)) (false, true)) staleInTheMiddle
    final s = true ∧ s.cl .e = .late ∧ good s = true := by decide +kernel
example : (true, false) ∈ lateConfigs ∧ (false, true) ∈ lateConfigs := by decide +kernel
example : ((true, false), false) ∈ envConfigs ∧ ((false, true), false) ∈ envConfigs ∧
    ((false, false), true) ∈ envConfigs := by decide +kernel

/-- the generated table, except that `reapPeer` only deletes the cached entry and closes the connection that
triggered the reap (it assumes that the cached connection IS that connection) -/
def evictOnlyTable : Table :=
  ⟨Gen.C41.snapshot, Gen.C41.decide, fun _ => { del := true, closeCached := false, closeTrigger := true }, Gen.C41.watch⟩

/-- … then the stale reap evicts the live `c` at P silently, Q keeps caching it: the state is final and
`cache_new_only_if_peer_does` fails (Q caches the new connection `c`, P caches nothing) -/
example : let s := run evictOnlyTable (init false (none, none) (true, false)) [.snap .Pc, .snap .Qc, .dec .Pc, .dec .Qc, .late .P]
    final s = true ∧ s.cached .P = none ∧ s.cached .Q = some .c ∧ s.closed .c = false ∧
    newOnlyIfPeer s = false := by decide +kernel
/-- ordinary schedules (every connection reaped once) do not tell the two tables apart -/
example : explore evictOnlyTable goodStrict 18 (init false (none, none)) = true := by decide +kernel

/-! ### the cached connection dies between a CACHED report and the decision: non-vacuity and sensitivity

Both peers cache `e` (P outgoing, Q incoming) and negotiate a further connection `c`: both ends report CACHED. Then
`e` dies, and P's close-watcher reaps it BEFORE P's end decides. The code as it is decides on the snapshot: it closes
`c` and returns the (dead) cached connection; both caches end empty. -/

/-- The instance of `no_split_brain` and
`cache_new_only_if_peer_does` for the death of the pre-existing connection: whenever `e` dies - before, between or
after the snapshots (cache-status reports) and the decisions of one dial or of two simultaneous dials - and whenever
its close-watchers reap it at either side, in every final state the peers do not cache different connections and
neither peer caches a new connection that the other one does not cache. -/
theorem cached_connection_death_keeps_agreement (dual : Bool) (pre : Entry × Entry) (hp : pre ∈ preStates)
    (l : List Step) (hf : final (run genTable (init dual pre (false, false) true) l) = true) :
    noSplitBrain (run genTable (init dual pre (false, false) true) l) = true ∧
      newOnlyIfPeer (run genTable (init dual pre (false, false) true) l) = true :=
  ⟨no_split_brain dual pre hp ((false, false), true) (by decide) l hf,
   cache_new_only_if_peer_does dual pre hp ((false, false), true) (by decide) l hf⟩

def diesInTheWindow : List Step :=
  [.snap .Pc, .snap .Qc, .kill, .reapE .P, .dec .Pc, .dec .Qc, .reapE .Q]

example : let s := run genTable (init false (some (.e, .outgoing), some (.e, .incoming)) (false, false) true) diesInTheWindow
    final s = true ∧ s.cached .P = none ∧ s.cached .Q = none ∧ s.cl .e = .late ∧ s.cl .c = .neg ∧
    s.pc .Pc = .done (.cached, .outgoing) (.reused (some .e)) false false ∧ good s = true := by decide +kernel
/-- the window is real: when P's end decides, its snapshot says `e` but its cache is empty -/
example : let s := run genTable (init false (some (.e, .outgoing), some (.e, .incoming)) (false, false) true) (diesInTheWindow.take 4)
    s.pc .Pc = .snapped (some (.e, .outgoing)) (.cached, .outgoing) ∧ s.cached .P = none ∧
    enabled s (.dec .Pc) = true := by decide +kernel
/-- `e` may die before, during or after two simultaneous dials -/
def diesInTheMiddle : List Step :=
  [.snap .Pc, .snap .Qd, .kill, .reapE .Q, .snap .Qc, .snap .Pd, .dec .Pc, .dec .Qd, .reapE .P, .dec .Qc, .dec .Pd]
example : let s := run genTable (init true (some (.e, .outgoing), some (.e, .incoming)) (false, false) true) diesInTheMiddle
    final s = true ∧ good s = true := by decide +kernel

/-- the generated table, except that the branch 'other: cached incoming, us: cached outgoing' looks at the cache
again and, when the cached entry has gone since the snapshot, keeps the new connection (stores it, returns it as new)
instead of closing it -/
def recheckTable : Table :=
  ⟨Gen.C41.snapshot, fun ps pd cached cdir dir rc rcdir =>
    match ps, pd, cached, cdir, rc with
    | .cached, .incoming, true, .outgoing, false =>
      { reload := true, closeFresh := false, closeCache := false, store := .fresh, del := false, ret := .fresh,
        reused := false, err := .nil }
    | _, _, _, _, _ => Gen.C41.decide ps pd cached cdir dir rc rcdir, Gen.C41.reap, Gen.C41.watch⟩

/-- … then P keeps `c` for itself: Q, which reported CACHED too, returns its cached `e` and never stores `c`;
`cache_new_only_if_peer_does` fails in a final state (P caches the live new connection `c`, Q caches nothing) -/
example : let s := run recheckTable (init false (some (.e, .outgoing), some (.e, .incoming)) (false, false) true) diesInTheWindow
    final s = true ∧ s.cached .P = some .c ∧ s.cached .Q = none ∧ s.closed .c = false ∧
    newOnlyIfPeer s = false := by decide +kernel
/-- without an environment event the two tables cannot be told apart: the entry reported as CACHED is still there when
the end decides -/
example : ∀ pre ∈ preStates, explore recheckTable goodStrict 18 (init false pre) = true := by decide +kernel

end Specter.C41
