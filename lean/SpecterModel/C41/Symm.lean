import SpecterModel.C41.ExploreF
/-!
# C41 — the symmetry of the model under exchanging the peers

The model does not distinguish the peers once both dial: exchanging P and Q, the new connections `c` and `d`, and
with them the four negotiation ends (`Pc`↔`Qd`, `Qc`↔`Pd`: the direction of an end stays) maps runs to runs, for
EVERY table. `explore_swap`: an exploration that succeeds from a state `s` of two dials succeeds from `s.swap`. So the
stale reap at Q follows from the stale reap at P, and a scenario that treats the peers alike need only be explored
from `halfStates` (`explore_of_halfStates`).
-/
namespace Specter.C41
open Gen.C41

def Side.swap : Side → Side
  | .P => .Q | .Q => .P
def Conn.swap : Conn → Conn
  | .e => .e | .c => .d | .d => .c
def Proc.swap : Proc → Proc
  | .Pc => .Qd | .Qd => .Pc | .Qc => .Pd | .Pd => .Qc
def Entry.swap (v : Entry) : Entry := v.map fun p => (p.1.swap, p.2)
def Res.swap : Res → Res
  | .reused x => .reused (x.map Conn.swap)
  | r => r
def PC.swap : PC → PC
  | .idle => .idle
  | .snapped v st => .snapped v.swap st
  | .done st r w b => .done st r.swap w b
/-- `dual := true`: the mirror image of a single dial (only `d` dialed) is no state of the model. So `s.swap.swap = s`
says that both dial in `s`. -/
def St.swap (s : St) : St :=
  { dual := true, cacheP := s.cacheQ.swap, cacheQ := s.cacheP.swap, clE := s.clE, clC := s.clD, clD := s.clC,
    pPc := s.pQd.swap, pQc := s.pPd.swap, pQd := s.pPc.swap, pPd := s.pQc.swap,
    watchP := s.watchQ, watchQ := s.watchP, lateP := s.lateQ, lateQ := s.lateP, dieE := s.dieE }
def Step.swap : Step → Step
  | .snap i => .snap i.swap | .dec i => .dec i.swap | .reap i => .reap i.swap
  | .reapE x => .reapE x.swap | .late x => .late x.swap | .kill => .kill

theorem Side.swap_swap (x : Side) : x.swap.swap = x := by cases x <;> rfl
theorem Conn.swap_swap (x : Conn) : x.swap.swap = x := by cases x <;> rfl
theorem Proc.swap_swap (i : Proc) : i.swap.swap = i := by cases i <;> rfl
theorem Entry.swap_swap (v : Entry) : v.swap.swap = v := by
  rcases v with _ | ⟨x, d⟩
  · rfl
  · exact congrArg (fun y => some (y, d)) x.swap_swap
theorem Step.swap_swap (e : Step) : e.swap.swap = e := by
  cases e <;> simp only [Step.swap, Proc.swap_swap, Side.swap_swap]

theorem Proc.side_swap (i : Proc) : i.swap.side = i.side.swap := by cases i <;> rfl
theorem Proc.conn_swap (i : Proc) : i.swap.conn = i.conn.swap := by cases i <;> rfl
theorem Proc.dir_swap (i : Proc) : i.swap.dir = i.dir := by cases i <;> rfl
theorem Proc.peer_swap (i : Proc) : i.swap.peer = i.peer.swap := by cases i <;> rfl

theorem Entry.swap_some (x : Conn) (d : Dir) : Entry.swap (some (x, d)) = some (x.swap, d) := rfl
theorem Entry.swap_none : Entry.swap none = none := rfl
theorem Entry.isSome_swap (v : Entry) : v.swap.isSome = v.isSome := by cases v <;> rfl
theorem entryDir_swap (v : Entry) : entryDir v.swap = entryDir v := by cases v <;> rfl
theorem Entry.map_fst_swap (v : Entry) : v.swap.map (·.1) = (v.map (·.1)).map Conn.swap := by cases v <;> rfl
theorem PC.status?_swap (p : PC) : p.swap.status? = p.status? := by cases p <;> rfl

theorem St.pc_swap (s : St) (i : Proc) : s.swap.pc i.swap = (s.pc i).swap := by cases i <;> rfl
theorem St.cache_swap (s : St) (x : Side) : s.swap.cache x.swap = (s.cache x).swap := by cases x <;> rfl
theorem St.cl_swap (s : St) (x : Conn) : s.swap.cl x.swap = s.cl x := by cases x <;> rfl
theorem St.closed_swap (s : St) (x : Conn) : s.swap.closed x.swap = s.closed x := by
  rw [St.closed, St.closed, St.cl_swap]

theorem St.setPc_swap (s : St) (i : Proc) (p : PC) : (s.setPc i p).swap = s.swap.setPc i.swap p.swap := by
  cases i <;> rfl
theorem St.setCache_swap (s : St) (x : Side) (v : Entry) :
    (s.setCache x v).swap = s.swap.setCache x.swap v.swap := by
  cases x <;> rfl
theorem St.close_swap (s : St) (b : Cl) (x : Conn) : (s.close b x).swap = s.swap.close b x.swap := by
  simp only [St.close, St.cl_swap]
  cases s.cl x <;> cases x <;> rfl
theorem St.closeEntry_swap (s : St) (b : Cl) (v : Entry) :
    (s.closeEntry b v).swap = s.swap.closeEntry b v.swap := by
  rcases v with _ | ⟨x, d⟩
  · rfl
  · exact s.close_swap b x

theorem reapPeer_swap (T : Table) (s : St) (x : Side) (t : Option Conn) (b : Cl) :
    (reapPeer T s x t b).swap = reapPeer T s.swap x.swap (t.map Conn.swap) b := by
  simp only [reapPeer, St.cache_swap, Entry.isSome_swap]
  generalize T.reap (s.cache x).isSome = a
  cases a.closeTrigger <;> cases t <;>
    simp only [apply_ite St.swap, St.setCache_swap, St.close_swap, St.closeEntry_swap, Option.map, Entry.swap_none]

theorem ownWatched_swap (T : Table) (i : Proc) (flag : Bool) (r : Res) :
    ownWatched T i.swap flag r.swap = ownWatched T i flag r := by
  cases r with
  | reused x => rcases x with _ | _ | _ | _ <;> cases i <;> rfl
  | fresh => exact congrArg (fun d => (T.watch d flag).returned) i.dir_swap
  | err => rfl

theorem Proc.active_swap (s : St) (hd : s.dual = true) (i : Proc) : i.swap.active s.swap = i.active s := by
  cases i <;> simp only [Proc.active, Proc.swap, St.swap, hd]

theorem enabled_swap (s : St) (hd : s.dual = true) (e : Step) : enabled s.swap e.swap = enabled s e := by
  cases e with
  | snap i =>
    simp only [enabled, Step.swap, Proc.active_swap s hd, St.pc_swap]
    cases s.pc i <;> rfl
  | dec i =>
    simp only [enabled, Step.swap, Proc.peer_swap, St.pc_swap]
    cases s.pc i <;> cases s.pc i.peer <;> rfl
  | reap i =>
    simp only [enabled, Step.swap, St.pc_swap, Proc.conn_swap, St.closed_swap]
    rcases s.pc i with _ | _ | ⟨_, _, _ | _, _ | _⟩ <;> rfl
  | reapE x => cases x <;> rfl
  | late x => cases x <;> rfl
  | kill => rfl

theorem step_dec_swap (T : Table) (s : St) (i : Proc) : (step T s (.dec i)).swap = step T s.swap (.dec i.swap) := by
  simp -zeta only [step, Proc.peer_swap, St.pc_swap, PC.status?_swap]
  cases s.pc i with
  | idle => rfl
  | done st r w b => rfl
  | snapped snap mine =>
    rcases (s.pc i.peer).status? with _ | ⟨ps, pd⟩
    · rfl
    · simp -zeta only [PC.swap, Proc.side_swap, St.cache_swap, Proc.dir_swap, Proc.conn_swap]
      -- unprimed: the lets of `step T s (.dec i)` on the left; primed: those of `step T s.swap (.dec i.swap)` on the
      -- right; one `have` per let
      extract_lets cur act cacheVar s1 s2 s3 s4 res s5 cur' act' cacheVar' s1' s2' s3' s4' res' s5'
      have hact : act' = act := by simp only [act', act, cur', cur, Entry.isSome_swap, entryDir_swap]
      have hcv : cacheVar' = cacheVar.swap := by simp only [cacheVar', cacheVar, hact, cur', cur, apply_ite Entry.swap]
      have h1 : s1' = s1.swap := by simp only [s1', s1, hact, apply_ite St.swap, St.close_swap]
      have h2 : s2' = s2.swap := by simp only [s2', s2, hact, hcv, h1, apply_ite St.swap, St.closeEntry_swap]
      have h3 : s3' = s3.swap := by
        simp only [s3', s3, hact, h2, apply_ite St.swap, St.setCache_swap, Entry.swap_none]
      have h4 : s4' = s4.swap := by
        simp only [s4', s4, hact, hcv, h3]
        cases act.store <;> simp only [St.setCache_swap, Entry.swap_some]
      have hres : res' = res.swap := by
        simp only [res', res, hact, hcv]
        cases act.err <;> cases act.ret <;> simp only [Res.swap, Entry.map_fst_swap]
      have h5 : s5' = s5.swap := by
        simp only [s5', s5, hres, h4]
        cases res <;> cases i.dir <;> simp only [Res.swap, St.close_swap]
      rw [h5, hres, hact, St.setPc_swap, ownWatched_swap]
      rfl

theorem step_swap (T : Table) (s : St) (e : Step) : (step T s e).swap = step T s.swap e.swap := by
  cases e with
  | snap i =>
    simp only [step, Step.swap, St.setPc_swap, PC.swap, Proc.side_swap, St.cache_swap, Entry.isSome_swap,
      entryDir_swap, Proc.dir_swap]
  | dec i => exact step_dec_swap T s i
  | reap i =>
    simp only [step, Step.swap, St.pc_swap]
    rcases s.pc i with _ | _ | ⟨st, r, _ | _, _ | _⟩ <;> try rfl
    simp only [PC.swap, St.setPc_swap, reapPeer_swap, Proc.side_swap, Proc.conn_swap, St.cl_swap, Option.map]
  | reapE x =>
    cases x
    · exact congrArg (fun t : St => { t with watchQ := false }) (reapPeer_swap T s .P (some .e) s.clE)
    · exact congrArg (fun t : St => { t with watchP := false }) (reapPeer_swap T s .Q (some .e) s.clE)
  | late x =>
    cases x
    · exact congrArg (fun t : St => { t with lateQ := false }) (reapPeer_swap T s .P none .late)
    · exact congrArg (fun t : St => { t with lateP := false }) (reapPeer_swap T s .Q none .late)
  | kill => exact congrArg (fun t : St => { t with dieE := false }) (s.close_swap .late .e)

theorem Step.swap_mem_ownSteps : ∀ e ∈ ownSteps, e.swap ∈ ownSteps := by decide +kernel

theorem final_swap (s : St) (hd : s.dual = true) (h : final s.swap = true) : final s = true := by
  rw [final_iff] at h ⊢
  intro e he
  rw [← enabled_swap s hd]
  exact h _ (Step.swap_mem_ownSteps e he)

/-- The hypothesis is `s.swap.swap = s`, and not `s.dual = true`: it passes from `s` to `step T s e` by `step_swap`
alone. -/
theorem explore_swap {T : Table} {prop prop' : St → Bool} (hprop : ∀ s, prop' s.swap = prop s) :
    ∀ (n : Nat) (s : St), s.swap.swap = s → explore T prop n s = true → explore T prop' n s.swap = true
  | 0, s, hinv, h => by
    have hd : s.dual = true := hinv ▸ rfl
    obtain ⟨hdis, hp⟩ := (explore_zero T prop s).mp h
    refine (explore_zero T prop' s.swap).mpr ⟨fun e => ?_, (hprop s).trans hp⟩
    rw [← e.swap_swap, enabled_swap s hd]
    exact hdis e.swap
  | n+1, s, hinv, h => by
    have hd : s.dual = true := hinv ▸ rfl
    obtain ⟨hf, hs⟩ := (explore_succ T prop n s).mp h
    refine (explore_succ T prop' n s.swap).mpr ⟨fun hfin => ?_, fun e he => ?_⟩
    · exact (hprop s).trans (hf (final_swap s hd hfin))
    · rw [← e.swap_swap, enabled_swap s hd] at he
      rw [← e.swap_swap, ← step_swap]
      refine explore_swap hprop n _ ?_ (hs _ he)
      rw [step_swap, step_swap, hinv, Step.swap_swap]

theorem St.cached_swap (s : St) (x : Side) : s.swap.cached x = (s.cached x.swap).map Conn.swap := by
  cases x <;> exact Entry.map_fst_swap _

theorem noSplitBrain_swap (s : St) : noSplitBrain s.swap = noSplitBrain s := by
  simp only [noSplitBrain, St.cached_swap, Side.swap]
  rcases s.cached .P with _ | _ | _ | _ <;> rcases s.cached .Q with _ | _ | _ | _ <;> rfl

theorem newOnlyIfPeer_swap (s : St) : newOnlyIfPeer s.swap = newOnlyIfPeer s := by
  simp only [newOnlyIfPeer, List.all_cons, List.all_nil, St.cached_swap, Side.swap]
  rcases s.cached .P with _ | _ | _ | _ <;> rcases s.cached .Q with _ | _ | _ | _ <;> rfl

theorem allProcs_all_swap (f : Proc → Bool) : (allProcs.all fun i => f i.swap) = allProcs.all f := by
  simp only [allProcs, List.all_cons, List.all_nil, Proc.swap]
  cases f .Pc <;> cases f .Qc <;> cases f .Qd <;> cases f .Pd <;> rfl

theorem reusedNotClosed_swap (s : St) : reusedNotClosed s.swap = reusedNotClosed s := by
  rw [reusedNotClosed, ← allProcs_all_swap]
  refine congrArg allProcs.all (funext fun i => ?_)
  rw [St.pc_swap]
  rcases s.pc i with _ | _ | ⟨_, (_ | x) | _ | _, _, _⟩ <;> try rfl
  exact congrArg (fun c : Cl => match c with | .neg => false | _ => true) (s.cl_swap x)

theorem crossStore_swap (s : St) : crossStore s.swap = crossStore s := by
  have key : ∀ f : PC → Bool, (∀ p, f p.swap = f p) →
      ((f s.swap.pPc && f s.swap.pQd) || (f s.swap.pPd && f s.swap.pQc)) =
        ((f s.pPc && f s.pQd) || (f s.pPd && f s.pQc)) := fun f hf => by
    show ((f s.pQd.swap && f s.pPc.swap) || (f s.pQc.swap && f s.pPd.swap)) = _
    rw [hf, hf, hf, hf, Bool.and_comm (f s.pQd), Bool.and_comm (f s.pQc)]
  exact key (fun p => match p with | .done _ .fresh _ _ => true | _ => false) fun p => by
    rcases p with _ | _ | ⟨_, _ | _ | _, _, _⟩ <;> rfl

theorem good_swap (s : St) : good s.swap = good s := by
  simp only [good, noSplitBrain_swap, newOnlyIfPeer_swap, reusedNotClosed_swap, crossStore_swap]

theorem goodStrict_swap (s : St) : goodStrict s.swap = goodStrict s := by
  simp only [goodStrict, noSplitBrain_swap, newOnlyIfPeer_swap, reusedNotClosed_swap]

def swapPre (pre : Entry × Entry) : Entry × Entry := (pre.2.swap, pre.1.swap)

theorem swapPre_swapPre (pre : Entry × Entry) : swapPre (swapPre pre) = pre := by
  simp only [swapPre, Entry.swap_swap]

theorem goodFor_swap (pre : Entry × Entry) (s : St) : goodFor pre s.swap = goodFor (swapPre pre) s := by
  rcases pre with ⟨_ | _, _ | _⟩
  · exact good_swap s
  · exact goodStrict_swap s
  · exact goodStrict_swap s
  · exact goodStrict_swap s

theorem init_swap (pre : Entry × Entry) (late : Bool × Bool) (die : Bool) :
    (init true pre late die).swap = init true (swapPre pre) (late.2, late.1) die := by
  rcases pre with ⟨_ | _, _ | _⟩ <;> rfl

theorem explore_init_swap {T : Table} {prop prop' : St → Bool} (hprop : ∀ s, prop' s.swap = prop s) (n : Nat)
    (pre : Entry × Entry) (late : Bool × Bool) (die : Bool)
    (h : explore T prop n (init true (swapPre pre) (late.2, late.1) die) = true) :
    explore T prop' n (init true pre late die) = true := by
  have := explore_swap hprop n _ (by rw [init_swap, init_swap, swapPre_swapPre]) h
  rwa [init_swap, swapPre_swapPre] at this

theorem swapPre_mem_preStates : ∀ pre ∈ preStates, swapPre pre ∈ preStates := by decide +kernel

/-- `preStates` up to the exchange of the peers: nobody caches `e`, P alone does, or both do and P dialed it -/
def halfStates : List (Entry × Entry) :=
  [ (none, none), (some (.e, .outgoing), none), (some (.e, .incoming), none),
    (some (.e, .outgoing), some (.e, .incoming)) ]

theorem preStates_half : ∀ pre ∈ preStates, pre ∈ halfStates ∨ swapPre pre ∈ halfStates := by decide +kernel

theorem explore_of_halfStates {T : Table} {prop : Entry × Entry → St → Bool}
    (hprop : ∀ pre s, prop pre s.swap = prop (swapPre pre) s) (n : Nat) (die : Bool)
    (h : ∀ pre ∈ halfStates, explore T (prop pre) n (init true pre (false, false) die) = true) :
    ∀ pre ∈ preStates, explore T (prop pre) n (init true pre (false, false) die) = true := by
  intro pre hp
  rcases preStates_half pre hp with hh | hh
  · exact h pre hh
  · exact explore_init_swap (hprop pre) n pre (false, false) die (h _ hh)

end Specter.C41
