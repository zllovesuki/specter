import SpecterModel.C41.Symm
/-!
# C41 — the exhaustive explorations (kernel-evaluated), all but the stale reap during two simultaneous dials

`exploreF … = true` over the table GENERATED from `overlay/reuse.go` / `overlay/reaper.go`. For two dials in a
scenario that treats the peers alike the evaluation runs over `halfStates`. The stale reap during two dials is in
`ExploreLateP`: it is by far the longest, and compiles in parallel.
Fuel 18: each of the 17 step labels disables itself when it fires and no step enables it again, so no run is longer
than 17; with too small a bound the evaluation fails (at fuel 0 `explore` demands that no step is enabled), it does not
pass with less explored.
-/
namespace Specter.C41
open Gen.C41

theorem exploreF_single : ∀ env ∈ envConfigs, ∀ pre ∈ preStates,
    exploreF genTable goodStrict 18 (init false pre env.1 env.2) = true := by
  decide +kernel

theorem exploreF_dual : ∀ pre ∈ halfStates, exploreF genTable (goodFor pre) 18 (init true pre) = true := by
  decide +kernel

/-- `e` dies (`kill`) at any point; its close-watchers (`reapE`) run at every side that caches it, each before,
between or after the snapshot and the decision of every negotiation end of its side -/
theorem exploreF_dual_die : ∀ pre ∈ halfStates,
    exploreF genTable good 18 (init true pre (false, false) true) = true := by
  decide +kernel

theorem exploreF_shared : ∀ dual ∈ [false, true], ∀ pre ∈ sharedStates,
    exploreF genTable (fun s => goodStrict s && keepsShared s) 18 (init dual pre) = true := by
  decide +kernel

end Specter.C41
