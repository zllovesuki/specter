import SpecterModel.C25.Model
/-!
# C25 — Tunnel control RPCs require a verified, registered client

Theorems quantify over every DHT state type and state, every caller, every method name, and every
handler behaviour (`handler` is an arbitrary function: this is the quantification over request bodies
and over what the handlers would do). The method sets, the allow-list and the hook wiring are the
GENERATED facts of `Gen.C25` (regenerated from the twirp interfaces and client_rpc.go on every run).
-/
namespace Specter.C25
open Gen.C25

variable {σ ρ : Type}

/-- The hook refuses — and leaves the DHT untouched — unless the method is allow-listed or the caller has a
verified certificate whose token is registered. -/
theorem gate_refuses (W : World σ) (allow : List String) (m : String) (c : Caller) (st : σ)
    (hm : m ∉ allow) (hc : ¬ authorized W st c) :
    ∃ code, gate W allow m c st = (st, some code) := by
  by_cases hd : c = .noDelegation
  · exact ⟨_, if_pos hd⟩
  rw [gate.eq_def, if_neg hd, if_neg hm]
  cases c with
  | token t =>
    dsimp only
    cases h : W.tokenRec st t with
    | client old => exact absurd ⟨old, h⟩ hc
    | _ => exact ⟨_, rfl⟩
  | _ => exact ⟨_, rfl⟩

section
variable {W : World σ} {allow : List String} {handler : String → Caller → σ → σ × ρ} {m : String} {c : Caller} {st : σ}

theorem rpc_badRoute (hr : m ∉ allMethods) : rpc W allow handler m c st = (st, .badRoute) :=
  if_pos hr

theorem rpc_denied {st' : σ} {code : String} (hr : m ∈ allMethods) (hg : gate W allow m c st = (st', some code)) :
    rpc W allow handler m c st = (st', .denied code) := by
  rw [rpc, if_neg (not_not_intro hr), hg]

end

/-- C25: a call to a non-allow-listed method by a caller without verified certificate or with an
unregistered token is refused, the handler never runs (whatever it is, whatever the body) and the DHT is
unchanged. -/
theorem refused_changes_nothing (W : World σ) (allow : List String) (handler : String → Caller → σ → σ × ρ)
    (m : String) (c : Caller) (st : σ) (hm : m ∉ allow) (hc : ¬ authorized W st c) :
    (rpc W allow handler m c st).1 = st
    ∧ ((rpc W allow handler m c st).2 = .badRoute ∨ ∃ code, (rpc W allow handler m c st).2 = .denied code) := by
  by_cases hr : m ∈ allMethods
  · obtain ⟨code, hg⟩ := gate_refuses W allow m c st hm hc
    rw [rpc_denied hr hg]
    exact ⟨rfl, .inr ⟨code, rfl⟩⟩
  · rw [rpc_badRoute hr]
    exact ⟨rfl, .inl rfl⟩

/-- Conversely: whenever a handler ran, the method was allow-listed or the caller was authorized; and a
context without delegation never reaches any handler. -/
theorem handled_only_if_authorized (W : World σ) (allow : List String) (handler : String → Caller → σ → σ × ρ)
    (m : String) (c : Caller) (st : σ) (r : ρ) (h : (rpc W allow handler m c st).2 = .handled r) :
    c ≠ .noDelegation ∧ (m ∈ allow ∨ authorized W st c) := by
  constructor
  · rintro rfl
    by_cases hr : m ∈ allMethods
    · rw [rpc_denied hr (if_pos rfl)] at h; cases h
    · rw [rpc_badRoute hr] at h; cases h
  · by_cases hm : m ∈ allow
    · exact Or.inl hm
    · by_cases hc : authorized W st c
      · exact Or.inr hc
      · rcases (refused_changes_nothing W allow handler m c st hm hc).2 with h' | ⟨code, h'⟩ <;>
          rw [h'] at h <;> cases h

/-- For an authorized caller the hook passes, on every method (the gate is not vacuous); the only DHT write
the gate itself may do is rewriting the caller's own old-format token record. -/
theorem authorized_passes (W : World σ) (allow : List String) (m : String) (t : String) (st : σ)
    (old : Bool) (h : W.tokenRec st t = .client old) :
    gate W allow m (.token t) st = (st, none) ∨ gate W allow m (.token t) st = (W.saveToken st t, none) := by
  by_cases hm : m ∈ allow
  · left; simp [gate, hm]
  · cases old <;> simp [gate, hm, h]

/-! ## the generated facts about the real RPC surface -/

/-- the allow-list in the routing hook is exactly {Ping, RegisterIdentity}. -/
theorem allowList_expected : allowList = ["Ping", "RegisterIdentity"] := rfl

/-- the methods of both services outside the allow-list: the ones the hook's default branch takes (that this branch
authenticates is `hook_wiring`). -/
theorem gated_methods :
    allMethods.filter (fun m => !(allowList.contains m))
      = ["GetNodes", "GenerateHostname", "RegisteredHostnames", "PublishTunnel", "UnpublishTunnel",
         "ReleaseTunnel", "AcmeInstruction", "AcmeValidate", "GetCertificate", "Sign"] := by
  simp [allMethods, tunnelMethods, keylessMethods, allowList]

/-- both twirp servers are built with the hook, the default branch authenticates, and the delegation check
comes first. -/
theorem hook_wiring : hookedServices = ["TunnelService", "KeylessService"]
    ∧ defaultGuarded = true ∧ delegationCheckedFirst = true := ⟨rfl, rfl, rfl⟩

/-- C25 on the real surface: for every TunnelService / KeylessService method other than Ping and
RegisterIdentity, an unauthorized call is denied with the DHT unchanged. -/
theorem every_gated_method_refuses (W : World σ) (handler : String → Caller → σ → σ × ρ)
    (m : String) (hmem : m ∈ allMethods) (hP : m ≠ "Ping") (hR : m ≠ "RegisterIdentity")
    (c : Caller) (st : σ) (hc : ¬ authorized W st c) :
    ∃ code, rpc W allowList handler m c st = (st, .denied code) := by
  have hm : m ∉ allowList := by rw [allowList_expected]; simp [hP, hR]
  obtain ⟨code, hg⟩ := gate_refuses W allowList m c st hm hc
  exact ⟨code, rpc_denied hmem hg⟩

/-! ## the allow-listed handlers -/

theorem ping_changes_nothing (c : Caller) (st : σ) : (ping c st).1 = st := rfl

/-- identity registration itself needs a verified certificate, and writes nothing without one. -/
theorem registerIdentity_needs_cert (W : World σ) (d s : Bool) (c : Caller) (st : σ)
    (hc : ∀ t, c ≠ .token t) :
    (registerIdentity W d s c st).1 = st ∧ ∃ code, (registerIdentity W d s c st).2 = .err code := by
  cases c with
  | token t => exact absurd rfl (hc t)
  | _ => exact ⟨rfl, _, rfl⟩

/-- the only state change of RegisterIdentity is the caller's own token record. -/
theorem registerIdentity_writes_own_token (W : World σ) (d s : Bool) (c : Caller) (st : σ) :
    (registerIdentity W d s c st).1 = st ∨ ∃ t, c = .token t ∧ (registerIdentity W d s c st).1 = W.saveToken st t := by
  cases c with
  | token t => cases d <;> cases s <;> simp [registerIdentity]
  | _ => exact Or.inl rfl

/-! ## identity extraction (`pki.ExtractCertificateIdentity`): the token the gate checks is the certificate's whole token

(`C32/Model.lean` models the same function a second time, on bytes and with the id kept, for the PKI side.) -/
theorem cut_append (a b : List Char) (h : ':' ∉ a) : cut (a ++ ':' :: b) = some (a, b) := by
  induction a with
  | nil => simp [cut]
  | cons x a ih =>
    obtain ⟨hx, ha⟩ : ¬ ':' = x ∧ ':' ∉ a := by simpa using h
    simp [cut, Ne.symm hx, ih ha]

theorem cut_eq_some_iff (cs a b : List Char) :
    cut cs = some (a, b) ↔ cs = a ++ ':' :: b ∧ ':' ∉ a := by
  refine ⟨?_, fun ⟨e, h⟩ => e ▸ cut_append a b h⟩
  fun_induction cut cs generalizing a with
  | case1 => nofun
  | case2 cs => rintro ⟨⟩; simp
  | case3 c cs hc a' b' h ih =>
    rintro ⟨⟩
    obtain ⟨rfl, hn⟩ := ih _ h
    simp [hn, Ne.symm hc]
  | case4 => nofun

theorem subjectParts_eq_some_iff (cn a b c : List Char) :
    subjectParts cn = some (a, b, c) ↔ cn = a ++ ':' :: (b ++ ':' :: c) ∧ ':' ∉ a ∧ ':' ∉ b := by
  constructor
  · fun_cases subjectParts cn
    all_goals intro h; cases h
    · next h1 h2 =>
      obtain ⟨rfl, ha⟩ := (cut_eq_some_iff ..).1 h1
      obtain ⟨rfl, hb⟩ := (cut_eq_some_iff ..).1 h2
      exact ⟨rfl, ha, hb⟩
  · rintro ⟨rfl, ha, hb⟩
    simp [subjectParts, cut_append _ _ ha, cut_append _ _ hb]

theorem isUint64_no_sep (id : List Char) (h : isUint64 id = true) : ':' ∉ id := by
  intro hm
  simp only [isUint64, Bool.and_eq_true, List.all_eq_true] at h
  exact absurd (h.1.2 _ hm) (by decide)

/-- `id` is any separator-free text, numeric or not -/
theorem callerOfSubject_v1 (id tok : List Char) (hsep : ':' ∉ id) :
    callerOfSubject (subjectV1 id tok) = if isUint64 id then .token (String.ofList tok) else .panicSubject := by
  have : subjectParts (subjectV1 id tok) = some (v1Tag, id, tok) :=
    (subjectParts_eq_some_iff _ _ _ _).2 ⟨rfl, by decide, hsep⟩
  simp [callerOfSubject, this]

theorem callerOfSubject_v2 (id h : List Char) (hsep : ':' ∉ id) :
    callerOfSubject (subjectV2 id h)
      = if isUint64 id then .token (String.ofList (subjectV2 id h)) else .panicSubject := by
  have : subjectParts (subjectV2 id h) = some (v2Tag, id, h) :=
    (subjectParts_eq_some_iff _ _ _ _).2 ⟨rfl, by decide, hsep⟩
  have h21 : v2Tag ≠ v1Tag := by decide
  simp [callerOfSubject, this, h21]

/-- a v1 subject carries its WHOLE token, separators included: nothing is cut off. -/
theorem v1_subject_roundtrip (id tok : List Char) (hid : isUint64 id = true) :
    callerOfSubject (subjectV1 id tok) = .token (String.ofList tok) := by
  rw [callerOfSubject_v1 id tok (isUint64_no_sep id hid), if_pos hid]

theorem v2_subject_roundtrip (id h : List Char) (hid : isUint64 id = true) :
    callerOfSubject (subjectV2 id h) = .token (String.ofList (subjectV2 id h)) := by
  rw [callerOfSubject_v2 id h (isUint64_no_sep id hid), if_pos hid]

/-- conversely, whenever the extraction yields a token, the CommonName is exactly the v1 subject of that
token (or the v2 subject that IS the token): the identity the gate checks determines the certificate's
token completely. -/
theorem subject_token_faithful (cn : List Char) (t : String) (h : callerOfSubject cn = .token t) :
    (∃ id tok, isUint64 id = true ∧ cn = subjectV1 id tok ∧ t = String.ofList tok)
    ∨ (∃ id hs, isUint64 id = true ∧ cn = subjectV2 id hs ∧ t = String.ofList cn) := by
  revert h
  fun_cases callerOfSubject cn
  all_goals intro h; cases h  -- the two branches that return a token: v1, v2
  · next id tok hid hp => exact .inl ⟨id, tok, hid, ((subjectParts_eq_some_iff ..).1 hp).1, rfl⟩
  · next id tok hid hp _ => exact .inr ⟨id, tok, hid, ((subjectParts_eq_some_iff ..).1 hp).1, rfl⟩

/-- C25 through the real identity extraction: a verified v1 certificate whose token — the ENTIRE remainder
of the CommonName after `v1:<id>:` — has no client record is refused on every gated method with the DHT
unchanged, whatever else is registered (in particular a registered token that is a prefix of the caller's
token up to one of its separators does not help). `id` is any separator-free text: a non-numeric id is refused too. -/
theorem unregistered_v1_subject_refused (W : World σ) (handler : String → Caller → σ → σ × ρ)
    (m : String) (hmem : m ∈ allMethods) (hP : m ≠ "Ping") (hR : m ≠ "RegisterIdentity")
    (id tok : List Char) (hsep : ':' ∉ id) (st : σ)
    (hreg : ∀ old, W.tokenRec st (String.ofList tok) ≠ .client old) :
    ∃ code, rpc W allowList handler m (callerOfSubject (subjectV1 id tok)) st = (st, .denied code) := by
  apply every_gated_method_refuses W handler m hmem hP hR
  rw [callerOfSubject_v1 id tok hsep]
  split
  · exact fun ⟨old, h⟩ => hreg old h
  · exact not_false

/-- the same for v2 certificates: the token is the entire CommonName, so a subject with anything appended
to a registered v2 subject is a different, unregistered token. -/
theorem unregistered_v2_subject_refused (W : World σ) (handler : String → Caller → σ → σ × ρ)
    (m : String) (hmem : m ∈ allMethods) (hP : m ≠ "Ping") (hR : m ≠ "RegisterIdentity")
    (id hs : List Char) (hsep : ':' ∉ id) (st : σ)
    (hreg : ∀ old, W.tokenRec st (String.ofList (subjectV2 id hs)) ≠ .client old) :
    ∃ code, rpc W allowList handler m (callerOfSubject (subjectV2 id hs)) st = (st, .denied code) := by
  apply every_gated_method_refuses W handler m hmem hP hR
  rw [callerOfSubject_v2 id hs hsep]
  split
  · exact fun ⟨old, h⟩ => hreg old h
  · exact not_false

/-- every CommonName that is neither a v1 nor a v2 subject with a numeric id is refused on every gated
method, whatever is registered. -/
theorem malformed_subject_refused (W : World σ) (handler : String → Caller → σ → σ × ρ)
    (m : String) (hmem : m ∈ allMethods) (hP : m ≠ "Ping") (hR : m ≠ "RegisterIdentity")
    (cn : List Char) (st : σ)
    (h1 : ∀ id tok, isUint64 id = true → cn ≠ subjectV1 id tok)
    (h2 : ∀ id hs, isUint64 id = true → cn ≠ subjectV2 id hs) :
    ∃ code, rpc W allowList handler m (callerOfSubject cn) st = (st, .denied code) := by
  apply every_gated_method_refuses W handler m hmem hP hR
  intro ha
  cases hc : callerOfSubject cn with
  | token t =>
    rcases subject_token_faithful cn t hc with ⟨id, tok, hid, e, _⟩ | ⟨id, hs, hid, e, _⟩
    · exact h1 id tok hid e
    · exact h2 id hs hid e
  | _ => rw [hc] at ha; exact ha

/-! ## non-vacuity: a concrete DHT (association list token ↦ record) -/

private def W0 : World (List (String × TokenRec)) where
  tokenRec st t := match st.find? (·.1 == t) with | some (_, r) => r | none => .absent
  saveToken st t := (t, .client false) :: st

private def st0 : List (String × TokenRec) := [("alice", .client false), ("old", .client true), ("junk", .undecodable)]
private def h0 : String → Caller → List (String × TokenRec) → List (String × TokenRec) × Nat :=
  fun _ _ st => (("evil", .client false) :: st, 7)   -- a handler that always writes

example : "PublishTunnel" ∈ allMethods ∧ "PublishTunnel" ∉ allowList := by decide +kernel
example : ¬ authorized W0 st0 (.token "mallory") := by simp [authorized, W0, st0]
example : ¬ authorized W0 st0 (.token "junk") := by simp [authorized, W0, st0]
example : (rpc W0 allowList h0 "PublishTunnel" (.token "mallory") st0).1 = st0 := by decide +kernel
example : (rpc W0 allowList h0 "PublishTunnel" (.token "alice") st0).1 = ("evil", .client false) :: st0 := by decide +kernel
example : (rpc W0 allowList h0 "Sign" .noCert st0).1 = st0 := by decide +kernel
example : (rpc W0 allowList h0 "Ping" .noCert st0).1 = ("evil", .client false) :: st0 := by decide +kernel
example : authorized W0 st0 (.token "alice") := ⟨false, by decide +kernel⟩
example : (gate W0 allowList "GetNodes" (.token "old") st0) = (("old", .client false) :: st0, none) := by decide +kernel

/-! non-vacuity of the extraction theorems: `alice` is registered, `alice:other` / `alice:` / `:alice` are not -/
private def cs (s : String) : List Char := s.toList

example : isUint64 (cs "42") = true ∧ isUint64 (cs "18446744073709551615") = true
    ∧ isUint64 (cs "18446744073709551616") = false ∧ isUint64 (cs "") = false ∧ isUint64 (cs "+1") = false := by decide +kernel
example : callerOfSubject (cs "v1:42:alice:other") = .token "alice:other" := by decide +kernel
example : callerOfSubject (cs "v1:42::") = .token ":" := by decide +kernel
example : callerOfSubject (cs "v2:42:aGFzaA==:x") = .token "v2:42:aGFzaA==:x" := by decide +kernel
example : callerOfSubject (cs "v1:42") = .badSubject ∧ callerOfSubject (cs "v1:x:t") = .panicSubject
    ∧ callerOfSubject (cs "v3:1:t") = .badSubject := by decide +kernel
example : (rpc W0 allowList h0 "GenerateHostname" (callerOfSubject (cs "v1:42:alice")) st0).1
    = ("evil", .client false) :: st0 := by decide +kernel
example : (rpc W0 allowList h0 "GenerateHostname" (callerOfSubject (cs "v1:42:alice:other")) st0).1 = st0 := by decide +kernel
example : ∀ old, W0.tokenRec st0 (String.ofList (cs "alice:other")) ≠ .client old := by decide +kernel

end Specter.C25
