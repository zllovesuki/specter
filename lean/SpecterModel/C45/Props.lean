import SpecterModel.C45.Model
/-!
# C45 — Saving the client configuration never loses the client identity

`atomic_replace_safe`: for EVERY op list of the atomic-replace shape (decidable predicate
`isAtomicReplace`, evaluated by the driver on the strace-recorded operations of the real
`Config.writeFile`) whose temporary name is private (`tmpPrivate`, also evaluated by the driver on
the recorded start state), every crash image of the config path after every prefix is the old or the
new content — whether the config path is a regular file or a symbolic link (chain) to one: images are
read through links, the rename replaces the link itself. `atomic_replace_never_writes_old`: the file
that held the old configuration is never written by such a save. `truncate_in_place_unsafe` /
`truncate_through_link_unsafe` / `rename_without_fsync_unsafe`: the classic broken shapes have a crash
image that is neither.
-/
namespace Specter.C45

/-! ## path resolution facts -/

theorem upd_same {α β} [DecidableEq α] (f : α → β) (a : α) (b : β) : upd f a b a = b := by simp [upd]
theorem upd_other {α β} [DecidableEq α] (f : α → β) (a x : α) (b : β) (h : x ≠ a) : upd f a b x = f x := by
  simp [upd, h]

theorem resolve_file {dir : String → Option Entry} {p : String} {i : Nat} (f : Nat)
    (h : dir p = some (.file i)) : resolve dir f p = some (p, some i) := by
  cases f <;> simp [resolve, h]

theorem resolve_absent {dir : String → Option Entry} {p : String} (f : Nat)
    (h : dir p = none) : resolve dir f p = some (p, none) := by
  cases f <;> simp [resolve, h]

theorem resolve_link {dir : String → Option Entry} {p q : String} (f : Nat)
    (h : dir p = some (.link q)) : resolve dir (f + 1) p = resolve dir f q := by
  simp [resolve, h]

theorem resolve_end {dir : String → Option Entry} {f : Nat} {p q : String} {i : Nat}
    (h : resolve dir f p = some (q, some i)) : dir q = some (.file i) := by
  fun_induction resolve dir f p <;> simp_all

theorem resolve_upd_absent {dir : String → Option Entry} {x : String} (e : Option Entry) (hx : dir x = none)
    {f : Nat} {p q : String} {i : Nat} (h : resolve dir f p = some (q, some i)) :
    resolve (upd dir x e) f p = some (q, some i) := by
  -- an entry that exists is not `x`, so `upd` leaves it alone
  have hu {p en} (hp : dir p = some en) : upd dir x e p = some en := by
    rw [upd_other _ _ _ _ fun e' => by simp [e', hx] at hp, hp]
  fun_induction resolve dir f p with
  | case1 | case3 | case4 => cases h
  | case2 p j hp | case5 _ p j hp => rw [resolve_file _ (hu hp)]; exact h
  | case6 f p to hp ih => rw [resolve_link f (hu hp)]; exact ih h

theorem inodeOf_file {dir : String → Option Entry} {p : String} {i : Nat}
    (h : dir p = some (.file i)) : inodeOf dir p = some i := by
  simp [inodeOf, resolve_file linkFuel h]

theorem inodeOf_resolve {dir : String → Option Entry} {p : String} {i : Nat}
    (h : inodeOf dir p = some i) : ∃ q, resolve dir linkFuel p = some (q, some i) := by
  revert h
  fun_cases inodeOf dir p
  case case1 q j hr =>
    rintro ⟨⟩
    exact ⟨q, hr⟩
  case case2 => exact nofun

theorem inodeOf_end {dir : String → Option Entry} {p : String} {i : Nat}
    (h : inodeOf dir p = some i) : ∃ q, dir q = some (.file i) := by
  obtain ⟨q, hr⟩ := inodeOf_resolve h
  exact ⟨q, resolve_end hr⟩

theorem inodeOf_upd_absent {dir : String → Option Entry} {x p : String} {i : Nat} (e : Option Entry)
    (hx : dir x = none) (h : inodeOf dir p = some i) : inodeOf (upd dir x e) p = some i := by
  obtain ⟨q, hr⟩ := inodeOf_resolve h
  simp [inodeOf, resolve_upd_absent e hx hr]

/-! ## what one operation does -/

theorem step_openTrunc_found {s : Fs} {p q : String} {i : Nat} (fd : Nat)
    (h : resolve s.dir linkFuel p = some (q, some i)) :
    step s (.openTrunc fd p) = { s with file := upd s.file i ⟨[], 0⟩, fd := upd s.fd fd (some i) } := by
  simp [step, h]

theorem step_openTrunc_created {s : Fs} {p q : String} (fd : Nat) (h : resolve s.dir linkFuel p = some (q, none)) :
    step s (.openTrunc fd p) =
      { s with dir := upd s.dir q (some (.file s.next)), file := upd s.file s.next ⟨[], 0⟩,
               fd := upd s.fd fd (some s.next), next := s.next + 1 } := by
  simp [step, h]

theorem step_write {s : Fs} {fd i : Nat} (bs : List Nat) (h : s.fd fd = some i) :
    step s (.write fd bs) = { s with file := upd s.file i { s.file i with data := (s.file i).data ++ bs } } := by
  simp [step, h]

theorem step_fsync {s : Fs} {fd i : Nat} (h : s.fd fd = some i) :
    step s (.fsync fd) = { s with file := upd s.file i { s.file i with durable := (s.file i).data.length } } := by
  simp [step, h]

theorem step_rename {s : Fs} {src : String} {e : Entry} (dst : String) (h : s.dir src = some e) :
    step s (.rename src dst) = { s with dir := upd (upd s.dir src none) dst (some e) } := by
  simp [step, h]

/-! ## the invariant of the atomic-replace shape -/

/-- Quiescent start: `path` leads (directly or through symbolic links) to the file `i0` whose content
`old` is entirely on stable storage; every inode in the directory is below `next`. -/
def BaseAt (path : String) (old : List Nat) (i0 : Nat) (s : Fs) : Prop :=
  inodeOf s.dir path = some i0 ∧ s.file i0 = ⟨old, old.length⟩ ∧ (∀ q i, s.dir q = some (.file i) → i < s.next)

def Base (path : String) (old : List Nat) (s : Fs) : Prop := ∃ i0, BaseAt path old i0 s

/-- `path` still leads to the untouched old file `i0`; `tmp` is a regular file entry for a different inode `i1`. -/
def Pre (path : String) (old : List Nat) (i0 : Nat) (tmp : String) (i1 : Nat) (s : Fs) : Prop :=
  inodeOf s.dir path = some i0 ∧ s.file i0 = ⟨old, old.length⟩ ∧ i1 ≠ i0 ∧ tmp ≠ path ∧ s.dir tmp = some (.file i1)

/-- What holds of the file system in each phase of the save; `rest` is what is left of the op list (the first
two phases speak of the bytes still to be written). -/
def Inv (path : String) (old new : List Nat) (i0 : Nat) : Phase → Fs → List FsOp → Prop
  | .start, s, rest => BaseAt path old i0 s ∧ pending rest = new ∧ tmpPrivate s path rest = true
  | .writing fd tmp, s, rest =>
    ∃ i1, Pre path old i0 tmp i1 s ∧ s.fd fd = some i1 ∧ (s.file i1).data ++ pending rest = new
  | .synced _ tmp, s, _ => ∃ i1, Pre path old i0 tmp i1 s ∧ s.file i1 = ⟨new, new.length⟩
  | .closed tmp, s, _ => ∃ i1, Pre path old i0 tmp i1 s ∧ s.file i1 = ⟨new, new.length⟩
  | .done _, s, _ => ∃ i1, i1 ≠ i0 ∧ s.dir path = some (.file i1) ∧ s.file i1 = ⟨new, new.length⟩ ∧
      s.file i0 = ⟨old, old.length⟩

/-- the phases after the fsync: the shape admits no further write (`post_no_writes`) -/
def Phase.post : Phase → Bool
  | .synced .. | .closed .. | .done .. => true
  | _ => false

theorem next_post {path : String} {ph ph' : Phase} {op : FsOp} (hp : ph.post = true)
    (hn : ph.next path op = some ph') : ph'.post = true ∧ ∀ rest, pending (op :: rest) = pending rest := by
  revert hp hn
  fun_cases Phase.next path ph op
  all_goals rintro hp ⟨⟩      -- closes the branches that take no transition
  all_goals cases hp          -- closes the transitions out of `start` and `writing`
  -- left: the four transitions out of `synced`, `closed`, `done`; none is a write
  all_goals exact ⟨rfl, fun _ => rfl⟩

theorem shapeFrom_cons {path : String} {ph : Phase} {op : FsOp} {rest : List FsOp}
    (h : shapeFrom path ph (op :: rest) = true) :
    ∃ ph', ph.next path op = some ph' ∧ shapeFrom path ph' rest = true := by
  rw [shapeFrom] at h
  split at h
  · exact ⟨_, ‹_›, h⟩
  · cases h

theorem post_no_writes {path : String} {ph : Phase} {rest : List FsOp} (hs : shapeFrom path ph rest = true)
    (hp : ph.post = true) : pending rest = [] := by
  induction rest generalizing ph with
  | nil => rfl
  | cons op rest ih =>
    obtain ⟨ph', hn, hs'⟩ := shapeFrom_cons hs
    obtain ⟨hp', hw⟩ := next_post hp hn
    rw [hw]
    exact ih hs' hp'

theorem isImage_iff {s : Fs} {path : String} {i : Nat} {x c : List Nat}
    (hd : inodeOf s.dir path = some i) (hf : s.file i = ⟨x, x.length⟩) : IsImage s path c ↔ c = x := by
  constructor
  · rintro ⟨j, hj, n, h1, -, rfl⟩
    cases hd.symm.trans hj
    rw [hf] at h1 ⊢
    exact List.take_of_length_le h1
  · rintro rfl
    exact ⟨i, hd, c.length, by simp [hf], by simp [hf], by simp [hf]⟩

theorem inv_durable {path : String} {old new : List Nat} {i0 : Nat} {ph : Phase} {s : Fs} {rest : List FsOp}
    (h : Inv path old new i0 ph s rest) : s.file i0 = ⟨old, old.length⟩ ∧
      ∃ i x, (x = old ∨ x = new) ∧ inodeOf s.dir path = some i ∧ s.file i = ⟨x, x.length⟩ := by
  cases ph with
  | start =>
    obtain ⟨⟨hd, hf, _⟩, _⟩ := h
    exact ⟨hf, i0, old, .inl rfl, hd, hf⟩
  | writing | synced | closed =>
    obtain ⟨i1, ⟨hd, hf, _⟩, _⟩ := h
    exact ⟨hf, i0, old, .inl rfl, hd, hf⟩
  | done =>
    obtain ⟨i1, _, hd, hf, hf0⟩ := h
    exact ⟨hf0, i1, new, .inr rfl, inodeOf_file hd, hf⟩

theorem Pre.of_eq {path : String} {old : List Nat} {i0 : Nat} {tmp : String} {i1 : Nat} {s s' : Fs}
    (h : Pre path old i0 tmp i1 s) (hd : s'.dir = s.dir) (hf : ∀ i, i ≠ i1 → s'.file i = s.file i) :
    Pre path old i0 tmp i1 s' := by
  have hne : i1 ≠ i0 := h.2.2.1
  unfold Pre
  rw [hd, hf i0 hne.symm]
  exact h

theorem Pre.rename {path : String} {old new : List Nat} {i0 : Nat} {tmp : String} {i1 : Nat} {s : Fs}
    (h : Pre path old i0 tmp i1 s) (hnew : s.file i1 = ⟨new, new.length⟩) (o : Option Nat) (rest : List FsOp) :
    Inv path old new i0 (.done o) (step s (.rename tmp path)) rest := by
  obtain ⟨_, hf, hi, _, ht⟩ := h
  rw [step_rename path ht]
  exact ⟨i1, hi, upd_same .., hnew, hf⟩

theorem inv_step {path : String} {old new : List Nat} {i0 : Nat} {ph ph' : Phase} {s : Fs} {op : FsOp}
    {rest : List FsOp} (h : Inv path old new i0 ph s (op :: rest)) (hn : ph.next path op = some ph')
    (hs : shapeFrom path ph' rest = true) : Inv path old new i0 ph' (step s op) rest := by
  revert h hn
  fun_cases Phase.next path ph op
  all_goals rintro h ⟨⟩      -- closes the branches that take no transition
  case case1 fd tmp hne =>        -- start, `openTrunc fd tmp`
    obtain ⟨⟨hd, hf, hlt⟩, hp, hpriv⟩ := h
    simp only [tmpPrivate, privateName] at hpriv
    cases hq : s.dir tmp with
    | none =>
      -- the fresh inode is not the old file, which the directory already names
      obtain ⟨q0, hq0⟩ := inodeOf_end hd
      have hi : s.next ≠ i0 := Nat.ne_of_gt (hlt q0 i0 hq0)
      rw [step_openTrunc_created fd (resolve_absent linkFuel hq)]
      exact ⟨s.next, ⟨inodeOf_upd_absent _ hq hd, (upd_other _ _ _ _ hi.symm).trans hf, hi, hne, upd_same ..⟩,
        upd_same .., by simp only [upd_same]; exact hp⟩
    | some e =>
      cases e with
      | link t => simp [hq] at hpriv
      | file i =>
        have hi : i ≠ i0 := by rintro rfl; simp [hq, hd] at hpriv
        rw [step_openTrunc_found fd (resolve_file linkFuel hq)]
        exact ⟨i, ⟨hd, (upd_other _ _ _ _ hi.symm).trans hf, hi, hne, hq⟩, upd_same ..,
          by simp only [upd_same]; exact hp⟩
  case case3 tmp fd bs =>         -- writing, `write`
    obtain ⟨i1, hp, hfd, hdata⟩ := h
    rw [step_write bs hfd]
    exact ⟨i1, hp.of_eq rfl fun _ => upd_other _ _ _ _, hfd,
      by simp only [upd_same, List.append_assoc]; exact hdata⟩
  case case5 tmp fd =>            -- writing, `fsync`
    obtain ⟨i1, hp, hfd, hdata⟩ := h
    -- nothing is written after the fsync, so the file holds all of `new`
    have hnew : (s.file i1).data = new := by simpa [pending, post_no_writes hs rfl] using hdata
    rw [step_fsync hfd]
    exact ⟨i1, hp.of_eq rfl fun _ => upd_other _ _ _ _, by simp only [upd_same, hnew]⟩
  case case7 tmp fd =>            -- synced, `close`
    obtain ⟨i1, hp, hnew⟩ := h
    exact ⟨i1, hp.of_eq rfl fun _ _ => rfl, hnew⟩
  case case9 fd tmp a b hab =>    -- synced, `rename`
    obtain ⟨rfl, rfl⟩ := hab
    obtain ⟨i1, hp, hnew⟩ := h
    exact hp.rename hnew _ rest
  case case11 tmp a b hab =>      -- closed, `rename`
    obtain ⟨rfl, rfl⟩ := hab
    obtain ⟨i1, hp, hnew⟩ := h
    exact hp.rename hnew _ rest
  case case13 fd =>               -- done, `close`
    exact h

/-- the invariant of the run: `Inv` in some phase from which the rest of the list still fits the shape -/
def Good (path : String) (old new : List Nat) (i0 : Nat) (s : Fs) (rest : List FsOp) : Prop :=
  ∃ ph, Inv path old new i0 ph s rest ∧ shapeFrom path ph rest = true

theorem good_step {path : String} {old new : List Nat} {i0 : Nat} {s : Fs} {op : FsOp} {rest : List FsOp}
    (h : Good path old new i0 s (op :: rest)) : Good path old new i0 (step s op) rest := by
  obtain ⟨ph, hi, hs⟩ := h
  obtain ⟨ph', hn, hs'⟩ := shapeFrom_cons hs
  exact ⟨ph', inv_step hi hn hs', hs'⟩

theorem good_run {path : String} {old new : List Nat} {i0 : Nat} {s : Fs} {ops : List FsOp}
    (h : Good path old new i0 s ops) (k : Nat) : Good path old new i0 (run s (ops.take k)) (ops.drop k) := by
  induction k generalizing s ops with
  | zero => exact h
  | succ k ih =>
    cases ops with
    | nil => exact h
    | cons op rest => exact ih (good_step h)

theorem replace_durable {path : String} {old new : List Nat} {i0 : Nat} {s : Fs} {ops : List FsOp}
    (hb : BaseAt path old i0 s) (hshape : isAtomicReplace path ops = true) (htmp : tmpPrivate s path ops = true)
    (hnew : pending ops = new) (k : Nat) : (run s (ops.take k)).file i0 = ⟨old, old.length⟩ ∧
      ∃ i x, (x = old ∨ x = new) ∧ inodeOf (run s (ops.take k)).dir path = some i ∧
        (run s (ops.take k)).file i = ⟨x, x.length⟩ :=
  have ⟨_, h, _⟩ := good_run ⟨.start, ⟨hb, hnew, htmp⟩, hshape⟩ k
  inv_durable h

/-- **atomic_replace_safe.** From a quiescent state where `path` leads — directly or through a chain
of symbolic links — to a file holding `old`, for every op list of the atomic-replace shape with a
private temporary name writing `new` in total, a crash after ANY prefix leaves `path` (read through
links) with exactly `old` or exactly `new` — never a truncated or partial file. -/
theorem atomic_replace_safe (path : String) (old new : List Nat) (s : Fs) (ops : List FsOp)
    (hs : Base path old s) (hshape : isAtomicReplace path ops = true) (htmp : tmpPrivate s path ops = true)
    (hnew : pending ops = new) :
    ∀ k c, IsImage (run s (ops.take k)) path c → c = old ∨ c = new := by
  obtain ⟨i0, hb⟩ := hs
  intro k c hc
  obtain ⟨_, i, x, hx, hd, hf⟩ := replace_durable hb hshape htmp hnew k
  exact (isImage_iff hd hf).mp hc ▸ hx

/-- after the complete save the only image is the new content (the save is durable once it returns),
and the config path is a regular file (a symbolic link at the config path has been replaced) -/
theorem atomic_replace_complete (path : String) (old new : List Nat) (s : Fs) (ops : List FsOp)
    (hs : Base path old s) (hshape : isAtomicReplace path ops = true) (htmp : tmpPrivate s path ops = true)
    (hnew : pending ops = new) :
    (∀ c, IsImage (run s ops) path c → c = new) ∧ ∃ i, (run s ops).dir path = some (.file i) := by
  obtain ⟨i0, hb⟩ := hs
  obtain ⟨ph, h, hsh⟩ := good_run ⟨.start, ⟨hb, hnew, htmp⟩, hshape⟩ ops.length
  rw [List.take_length, List.drop_length] at *
  -- nothing is left of the list, so the phase is `done`
  cases ph <;> cases hsh
  obtain ⟨i1, _, hd, hf, _⟩ := h
  exact ⟨fun c hc => (isImage_iff (inodeOf_file hd) hf).mp hc, i1, hd⟩

/-- the config path exists (has an image) after every prefix of an atomic replace: the statement of
`atomic_replace_safe` is never vacuous -/
theorem atomic_replace_exists (path : String) (old new : List Nat) (s : Fs) (ops : List FsOp)
    (hs : Base path old s) (hshape : isAtomicReplace path ops = true) (htmp : tmpPrivate s path ops = true)
    (hnew : pending ops = new) :
    ∀ k, ∃ c, IsImage (run s (ops.take k)) path c := by
  obtain ⟨i0, hb⟩ := hs
  intro k
  obtain ⟨_, i, x, _, hd, hf⟩ := replace_durable hb hshape htmp hnew k
  exact ⟨x, (isImage_iff hd hf).mpr rfl⟩

/-- **atomic_replace_never_writes_old.** The save never writes the file that held the previous
configuration: after every prefix that file (the inode the config path led to at the start — for a
symbolic-link config path, the link's target) still holds exactly `old`, fully on stable storage. -/
theorem atomic_replace_never_writes_old (path : String) (old new : List Nat) (i0 : Nat) (s : Fs) (ops : List FsOp)
    (hs : BaseAt path old i0 s) (hshape : isAtomicReplace path ops = true) (htmp : tmpPrivate s path ops = true)
    (hnew : pending ops = new) :
    ∀ k, (run s (ops.take k)).file i0 = ⟨old, old.length⟩ :=
  fun k => (replace_durable hs hshape htmp hnew k).1

theorem openTrunc_empties {s : Fs} {p q p' : String} {i : Nat} (fd : Nat)
    (hr : resolve s.dir linkFuel p = some (q, some i)) (hd : inodeOf s.dir p' = some i) :
    IsImage (step s (.openTrunc fd p)) p' [] := by
  rw [step_openTrunc_found fd hr]
  exact ⟨i, hd, 0, by simp [upd_same], Nat.zero_le _, rfl⟩

/-- **truncate_in_place_unsafe.** If the save opens the config path itself with truncation — a
regular file, or a symbolic link, which the open follows — the crash image right after that first
operation is the empty file: neither the (non-empty) old nor the (non-empty) new configuration —
certificate and key are gone. -/
theorem truncate_in_place_unsafe (path : String) (old new : List Nat) (s : Fs) (ops : List FsOp)
    (hs : Base path old s) (hshape : isTruncateInPlace path ops = true)
    (hold : old ≠ []) (hnew : new ≠ []) :
    ∃ k c, IsImage (run s (ops.take k)) path c ∧ c ≠ old ∧ c ≠ new := by
  obtain ⟨i0, hd, _⟩ := hs
  obtain ⟨q, hr⟩ := inodeOf_resolve hd
  unfold isTruncateInPlace at hshape
  split at hshape
  · cases of_decide_eq_true hshape
    exact ⟨1, [], openTrunc_empties _ hr hd, Ne.symm hold, Ne.symm hnew⟩
  · cases hshape

/-- **truncate_through_link_unsafe.** The config path is a symbolic link to the file `tgt` holding
`old`; a save that opens the config path with truncation ("save through the link") empties the file
the link points to: a crash right after the open leaves the config path — and `tgt` — empty. (`_hf` only
sets the scene; the proof does not need it.) -/
theorem truncate_through_link_unsafe (path tgt : String) (i0 fd : Nat) (old new : List Nat) (s : Fs)
    (rest : List FsOp) (hl : s.dir path = some (.link tgt)) (ht : s.dir tgt = some (.file i0))
    (_hf : s.file i0 = ⟨old, old.length⟩) (hold : old ≠ []) (hnew : new ≠ []) :
    ∃ k c, IsImage (run s ((FsOp.openTrunc fd path :: rest).take k)) path c ∧
      IsImage (run s ((FsOp.openTrunc fd path :: rest).take k)) tgt c ∧ c ≠ old ∧ c ≠ new := by
  have hr : resolve s.dir linkFuel path = some (tgt, some i0) :=
    (resolve_link 39 hl).trans (resolve_file 39 ht)      -- `linkFuel` is 39 + 1
  exact ⟨1, [], openTrunc_empties fd hr (by simp [inodeOf, hr]), openTrunc_empties fd hr (inodeOf_file ht),
    Ne.symm hold, Ne.symm hnew⟩

/-- **rename_without_fsync_unsafe.** Temp file + rename but no fsync before the rename: after the
complete save the config path may still hold an empty file after a crash. (`_hs`, `_hne` only set the scene;
the proof does not need them.) -/
theorem rename_without_fsync_unsafe (path tmp : String) (fd : Nat) (old new : List Nat) (s : Fs)
    (_hs : Base path old s) (_hne : tmp ≠ path) (hnl : ∀ t, s.dir tmp ≠ some (.link t))
    (hold : old ≠ []) (hnew : new ≠ []) :
    ∃ c, IsImage (run s [.openTrunc fd tmp, .write fd new, .close fd, .rename tmp path]) path c ∧
      c ≠ old ∧ c ≠ new := by
  refine ⟨[], ?_, Ne.symm hold, Ne.symm hnew⟩
  -- whatever file `i` the open yields, nothing of it is durable when it is renamed over `path`
  have key (s1 : Fs) (i : Nat) (ht : s1.dir tmp = some (.file i)) (hfd : s1.fd fd = some i)
      (hdur : (s1.file i).durable = 0) : IsImage (run s1 [.write fd new, .close fd, .rename tmp path]) path [] := by
    have hd : (run s1 [.write fd new, .close fd, .rename tmp path]).dir path = some (.file i) := by
      simp [run, step, hfd, ht, upd]
    exact ⟨i, inodeOf_file hd, 0, by simp [run, step, hfd, ht, upd, hdur], Nat.zero_le _, rfl⟩
  show IsImage (run (step s (.openTrunc fd tmp)) _) path []
  cases hq : s.dir tmp with
  | none =>
    rw [step_openTrunc_created fd (resolve_absent linkFuel hq)]
    exact key _ s.next (upd_same ..) (upd_same ..) (by simp [upd_same])
  | some e =>
    cases e with
    | link t => exact absurd hq (hnl t)
    | file i =>
      rw [step_openTrunc_found fd (resolve_file linkFuel hq)]
      exact key _ i hq (upd_same ..) (by simp [upd_same])

/-! ## non-vacuity -/

def exFs : Fs := { dir := fun p => if p = "cfg" then some (.file 0) else none, file := fun _ => ⟨[1, 2, 3], 3⟩,
                   fd := fun _ => none, next := 1 }
/-- the config path is a symbolic link to a link to the real file -/
def exFsLink : Fs :=
  { dir := fun p => if p = "cfg" then some (.link "dot") else if p = "dot" then some (.link "real")
                    else if p = "real" then some (.file 0) else none,
    file := fun _ => ⟨[1, 2, 3], 3⟩, fd := fun _ => none, next := 1 }
def exOps : List FsOp :=
  [.openTrunc 7 "cfg.tmp", .write 7 [4, 5], .write 7 [6], .fsync 7, .close 7, .rename "cfg.tmp" "cfg"]

example : Base "cfg" [1, 2, 3] exFs := ⟨0, by decide +kernel, rfl, by
  intro q i h
  simp only [exFs] at h ⊢
  grind⟩
example : Base "cfg" [1, 2, 3] exFsLink := ⟨0, by decide +kernel, rfl, by
  intro q i h
  simp only [exFsLink] at h ⊢
  grind⟩
example : isAtomicReplace "cfg" exOps = true := by decide +kernel
example : tmpPrivate exFs "cfg" exOps = true ∧ tmpPrivate exFsLink "cfg" exOps = true := by decide +kernel
example : pending exOps = [4, 5, 6] := by decide +kernel
example : imageSync (run exFs exOps) "cfg" = some [4, 5, 6] ∧ imageLossy (run exFs exOps) "cfg" = some [4, 5, 6] ∧
    imageLossy (run exFs (exOps.take 4)) "cfg" = some [1, 2, 3] := by decide +kernel
-- symbolic-link config path: old through the link before the rename, new (regular file) after it; the
-- link's target keeps the old content
example : imageSync (run exFsLink (exOps.take 5)) "cfg" = some [1, 2, 3] ∧
    imageLossy (run exFsLink exOps) "cfg" = some [4, 5, 6] ∧
    (run exFsLink exOps).dir "cfg" = some (.file 1) ∧
    imageLossy (run exFsLink exOps) "real" = some [1, 2, 3] := by decide +kernel
-- a temporary name that is a symbolic link to the config file is not private
def exFsTmpLink : Fs :=
  { exFs with dir := fun p => if p = "cfg" then some (.file 0) else if p = "cfg.tmp" then some (.link "cfg") else none }
example : tmpPrivate exFsTmpLink "cfg" exOps = false := by decide +kernel
example : isTruncateInPlace "cfg" [.openTrunc 7 "cfg", .write 7 [4, 5], .close 7] = true := by decide +kernel
example : isAtomicReplace "cfg" [.openTrunc 7 "cfg", .write 7 [4, 5], .close 7] = false := by decide +kernel
example : isAtomicReplace "cfg" [.openTrunc 7 "t", .write 7 [4], .close 7, .rename "t" "cfg"] = false := by decide +kernel
-- saving through the link: the first crash image of the config path is the empty file
example : imageSync (run exFsLink [.openTrunc 7 "cfg"]) "cfg" = some [] ∧
    imageSync (run exFsLink [.openTrunc 7 "cfg"]) "real" = some [] := by decide +kernel

end Specter.C45
