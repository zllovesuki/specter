import SpecterModel.C34.Model
import SpecterModel.Guard
/-!
# C34 — The gateway maps a request host to the right tunnel name

All theorems are over the model `extract` of `extractHostname` (Model.lean), for ALL byte strings,
root lists and `net.ParseIP` answers. `net.ParseIP` is an input (`isIP`); its case-insensitivity
(`isIP h₁ = isIP h₂` when the hosts differ only in letter case) is an explicit hypothesis of
`case_insensitive`, validated against the real library on every run (op `pair`).
-/
namespace Specter.C34

theorem lowerChar_idem (c : Nat) : lowerChar (lowerChar c) = lowerChar c := by
  unfold lowerChar
  split
  · rw [if_neg (by omega)]
  · rfl

theorem lowerChar_eq_dot (c : Nat) : lowerChar c = dot ↔ c = dot := by
  unfold lowerChar dot; split <;> omega

theorem lower_idem (s : Str) : lower (lower s) = lower s := by
  unfold lower; rw [List.map_map]; apply List.map_congr_left; intro c _; exact lowerChar_idem c

theorem lower_append (a b : Str) : lower (a ++ b) = lower a ++ lower b := by simp [lower]

theorem dots_lower (s : Str) : dots (lower s) = dots s := by
  have : (· == dot) ∘ lowerChar = (· == dot) := funext fun c => Bool.eq_iff_iff.mpr (by simp [lowerChar_eq_dot])
  rw [dots, lower, List.count, List.countP_map, this]; rfl

/-- a byte is a dot after lower-casing exactly when it was one before, so the split is at the same place -/
theorem split_lower (s : Str) :
    splitFirstDot (lower s) = (splitFirstDot s).map fun p => (lower p.1, lower p.2) := by
  induction s with
  | nil => rfl
  | cons c t ih =>
    simp only [lower, List.map_cons, splitFirstDot, lowerChar_eq_dot] at ih ⊢
    split
    · rfl
    · rw [ih]; cases splitFirstDot t <;> rfl

theorem split_at_first_dot (l r : Str) (hl : dot ∉ l) : splitFirstDot (l ++ dot :: r) = some (l, r) := by
  induction l with
  | nil => simp [splitFirstDot]
  | cons c t ih =>
    have hc : c ≠ dot := fun e => hl (by simp [e])
    have ht : dot ∉ t := fun m => hl (List.mem_cons_of_mem _ m)
    simp [splitFirstDot, hc, ih ht]

theorem split_some {s a b : Str} (h : splitFirstDot s = some (a, b)) : s = a ++ dot :: b ∧ dot ∉ a := by
  fun_induction splitFirstDot s generalizing a with
  | case1 => cases h
  | case2 rest => cases h; simp
  | case3 => cases h
  | case4 c rest hc a' b' h' ih =>
    cases h
    obtain ⟨rfl, hn⟩ := ih h'
    simp [hn, Ne.symm hc]

theorem split_none (s : Str) (h : splitFirstDot s = none) : dots s = 0 := by
  fun_induction splitFirstDot s with
  | case1 => rfl
  | case2 => cases h
  | case3 c rest hc hn ih => simpa [dots, List.count_cons, hc] using ih hn
  | case4 => cases h

theorem extract_ok (roots : List Str) {host : Str} (h : 2 ≤ dots host) :
    ∃ l r, splitFirstDot host = some (l, r) ∧
      extract roots host false = if lower r ∈ roots then .ok (lower l) else .ok (lower host) := by
  simp only [extract, split_lower]
  cases hs : splitFirstDot host with
  | none => have := split_none host hs; omega
  | some p => exact ⟨p.1, p.2, rfl, by simp [Nat.not_lt.2 h]⟩

/-- C34 (a): `label.root` for a configured root resolves to the (lower-cased) label, whatever the
letter case of the host. -/
theorem root_label (roots : List Str) (l r : Str) (hl : dot ∉ l) (hr : lower r ∈ roots)
    (h3 : 2 ≤ dots (l ++ dot :: r)) :
    extract roots (l ++ dot :: r) false = .ok (lower l) := by
  obtain ⟨l', r', hs, e⟩ := extract_ok roots h3
  cases (split_at_first_dot l r hl).symm.trans hs
  rw [e, if_pos hr]

/-- C34 (b): any other host with at least three labels resolves to the whole (lower-cased) host.
"Other" = the part after the first dot is not a configured root, ignoring case. -/
theorem other_three_labels (roots : List Str) (host : Str) (h3 : 2 ≤ dots host)
    (hno : ∀ l r, host = l ++ dot :: r → dot ∉ l → lower r ∉ roots) :
    extract roots host false = .ok (lower host) := by
  obtain ⟨l, r, hs, e⟩ := extract_ok roots h3
  rw [e, if_neg (hno l r (split_some hs).1 (split_some hs).2)]

/-- C34 (c): IP literals and hosts with fewer than three labels are refused. -/
theorem ip_or_short_refused (roots : List Str) (host : Str) (isIP : Bool)
    (h : isIP = true ∨ dots host < 2) :
    extract roots host isIP = .error .ip ∨ extract roots host isIP = .error .fewLabels := by
  unfold extract
  rcases h with h | h
  · simp [h]
  · by_cases i : isIP = true <;> simp [i, h]

/-- … and nothing else is refused. -/
theorem accepted_iff (roots : List Str) (host : Str) (isIP : Bool) :
    (∃ n, extract roots host isIP = .ok n) ↔ (isIP = false ∧ 2 ≤ dots host) := by
  constructor
  · rintro ⟨n, h⟩
    simp only [extract, guard_eq_iff, ne_eq, reduceCtorEq, not_false_eq_true, Bool.not_eq_true, Nat.not_lt] at h
    exact ⟨h.1, h.2.1⟩
  · rintro ⟨rfl, h2⟩
    obtain ⟨l, r, _, e⟩ := extract_ok roots h2
    rw [e]; split <;> exact ⟨_, rfl⟩

/-- The third error branch (`len(parts) != 2`) is dead code: it is never taken after the label count check. -/
theorem invalid_unreachable (roots : List Str) (host : Str) (isIP : Bool) :
    extract roots host isIP ≠ .error .invalid := by
  intro h
  have hg := h
  simp only [extract, guard_eq_iff, ne_eq, Except.error.injEq, reduceCtorEq, not_false_eq_true, Bool.not_eq_true,
    Nat.not_lt] at hg
  obtain ⟨n, e⟩ := (accepted_iff roots host isIP).mpr ⟨hg.1, hg.2.1⟩
  cases e.symm.trans h

/-- C34 (d): resolution is case-insensitive. Hosts that differ only in ASCII letter case (and on which
`net.ParseIP` agrees — library hypothesis, validated per run) resolve to the same result, for ANY root list. -/
theorem case_insensitive (roots : List Str) (h₁ h₂ : Str) (ip₁ ip₂ : Bool)
    (hcase : lower h₁ = lower h₂) (hip : ip₁ = ip₂) :
    extract roots h₁ ip₁ = extract roots h₂ ip₂ := by
  have hd : dots h₁ = dots h₂ := by rw [← dots_lower h₁, ← dots_lower h₂, hcase]
  unfold extract; rw [hcase, hd, hip]

/-- The resolved name is canonical (already lower-case). -/
theorem result_lowercase (roots : List Str) (host : Str) (isIP : Bool) (n : Str)
    (h : extract roots host isIP = .ok n) : lower n = n := by
  obtain ⟨rfl, h2⟩ := (accepted_iff roots host isIP).mp ⟨n, h⟩
  obtain ⟨l, r, _, e⟩ := extract_ok roots h2
  rw [e] at h
  split at h <;> cases h <;> exact lower_idem _

/-! ## Non-vacuity -/
private def s (x : String) : Str := x.toList.map Char.toNat

example : extract [s "example.com"] (s "Foo.EXAMPLE.com") false = .ok (s "foo") := by decide +kernel
example : extract [s "example.com"] (s "foo.example.com") false = .ok (s "foo") := by decide +kernel
example : extract [s "example.com"] (s "A.b.Example.com") false = .ok (s "a.b.example.com") := by decide +kernel
example : extract [s "example.com"] (s "1.2.3.4") true = .error .ip := by decide +kernel
example : extract [s "example.com"] (s "example.com") false = .error .fewLabels := by decide +kernel
-- hypotheses of root_label / other_three_labels / case_insensitive are satisfiable by non-trivial instances
example : dot ∉ s "Foo" ∧ lower (s "EXAMPLE.com") ∈ [s "example.com"] ∧ 2 ≤ dots (s "Foo" ++ dot :: s "EXAMPLE.com") := by decide +kernel
example : lower (s "Foo.EXAMPLE.com") = lower (s "fOO.example.COM") ∧ s "Foo.EXAMPLE.com" ≠ s "fOO.example.COM" := by decide +kernel

end Specter.C34
