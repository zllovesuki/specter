import SpecterModel.C44.Model
/-!
# C44 — After a configuration change, traffic goes to the current target

Primary theorem `forwarding_locked`, about the code as it is (incoming connections are resolved under
`configMu`): for EVERY schedule of rebuilds, reloads (also rejected ones), tunnel removals and connections —
connections may arrive while a change is in progress and then wait for the lock — every connection for a
non-empty hostname is served with the route configured at the moment it is resolved, and is not forwarded
when the hostname is not configured. Everything rests on one invariant, `Quiescent`, and on
`install_quiescent`: every configuration change has the shape `install`. `sequential_forwarding`,
`removed_not_forwarded`, `proxy_matches_router` state the invariant for runs without overlap.

`window_stale` / `c44_witness` are about the PRE-FIX interleaving (resolution without the lock, between
`closeOutdatedProxies` and `buildRouter`): one such connection re-caches a proxy for the old route, which
then serves every later connection. This is the schedule the harness replays when the fix is reverted.

Hostnames are non-empty: `buildRouter` also stores a tunnel whose hostname is empty and `diffTunnels`
skips those, so the router entry for "" can survive its removal.
-/
namespace Specter.C44

def RouterSub (s : St) : Prop := ∀ h r, h ≠ "" → s.router h = some r → current s h = some r
def RouterExact (s : St) : Prop := ∀ h, h ≠ "" → s.router h = current s h
def ProxySub (s : St) : Prop := ∀ h r, h ≠ "" → s.proxies h = some r → s.router h = some r

/-- no change in progress, the router is exactly the configuration, every cached proxy was built for
the route the router holds -/
structure Quiescent (s : St) : Prop where
  closed : s.window = none
  router : RouterExact s
  proxy : ProxySub s

theorem RouterExact.sub {s : St} (h : RouterExact s) : RouterSub s := fun x r hx hr => by rw [← h x hx]; exact hr

/-- `diffTunnels` reports exactly the non-empty hostnames configured before whose
route changed or which are gone. -/
theorem diff_sound (old new : List Tunnel) (h : String) :
    inDiff old new h = true ↔
      h ≠ "" ∧ ∃ o, last old h = some o ∧ (last new h).map (·.route) ≠ some o.route := by
  unfold inDiff
  cases ho : last old h <;> cases hn : last new h <;> simp
  intro _; exact ⟨fun e h' => e h'.symm, fun e h' => e h'.symm⟩

/-- The shape of every configuration change: the new list is installed, and for the hostnames in `d` the cached
proxy is closed and the router entry dropped before the router is refilled from the new list. -/
def install (s : St) (new : List Tunnel) (d : String → Bool) : St :=
  { tunnels := new, router := buildRouter d new s.router, proxies := closeOutdated d s.proxies, window := none }

theorem install_quiescent (s : St) (new : List Tunnel) (d : String → Bool) (hr : RouterSub s) (hp : ProxySub s)
    (keep : ∀ h r, h ≠ "" → current s h = some r → d h = false → (last new h).map (·.route) = some r) :
    Quiescent (install s new d) := by
  have router : RouterExact (install s new d) := by
    intro h hne
    simp only [install, current, buildRouter]
    cases hn : last new h with
    | some t => rfl
    | none =>
      cases hd : d h with
      | true => rfl
      | false =>
        cases hro : s.router h with
        | none => rfl
        | some r => simpa [hn] using keep h r hne (hr h r hne hro) hd
  refine ⟨rfl, router, fun h r hne hpr => ?_⟩
  -- the router being exact, a surviving proxy only has to agree with the new list
  rw [router h hne]
  simp only [install, closeOutdated] at hpr
  cases hd : d h with
  | true => simp [hd] at hpr
  | false =>
    rw [hd] at hpr
    exact keep h r hne (hr h r hne (hp h r hne hpr)) hd

theorem rebuild_eq (s : St) (new : List Tunnel) : rebuild s new = install s new (inDiff s.tunnels new) := by
  simp only [rebuild, wBegin, wEnd, install]

theorem rebuild_quiescent (s : St) (new : List Tunnel) (hr : RouterSub s) (hp : ProxySub s) :
    Quiescent (rebuild s new) := by
  rw [rebuild_eq]
  apply install_quiescent s new _ hr hp
  intro h r hne hc hd
  obtain ⟨o, ho, rfl⟩ := Option.map_eq_some_iff.mp hc
  refine Classical.byContradiction fun hn => ?_
  rw [(diff_sound s.tunnels new h).2 ⟨hne, o, ho, hn⟩] at hd
  cases hd

theorem Quiescent.rebuild {s : St} (q : Quiescent s) (new : List Tunnel) : Quiescent (rebuild s new) :=
  rebuild_quiescent s new q.router.sub q.proxy

/-- the client after its first synchronisation -/
theorem start_quiescent (ts first : List Tunnel) : Quiescent (rebuild (init ts) first) :=
  rebuild_quiescent _ _ (fun _ _ _ h => by simp [init] at h) (fun _ _ _ h => by simp [init] at h)

/-- resolving a connection only ever caches a proxy for the route the router holds -/
theorem incoming_spec (s : St) (h : String) (q : Quiescent s) :
    Quiescent (incoming s h).1 ∧ (h ≠ "" → (incoming s h).2 = current s h) := by
  fun_cases incoming s h
  case case1 hro =>           -- not routed
    exact ⟨q, fun hne => by rw [← q.router h hne, hro]⟩
  case case2 u hro r hpr =>   -- routed, proxy cached
    exact ⟨q, fun hne => by rw [← q.router h hne, q.proxy h r hne hpr]⟩
  case case3 u hro hpr =>     -- routed, proxy created for the router's route
    refine ⟨⟨q.closed, q.router, fun x r hx hxr => ?_⟩, fun hne => by rw [← q.router h hne, hro]⟩
    simp only at hxr
    split at hxr
    · next e => rw [e, hro, ← hxr]
    · exact q.proxy x r hx hxr

theorem last_eraseFirst_ne (ts : List Tunnel) (h x : String) (hne : x ≠ h) :
    last (eraseFirst ts h) x = last ts x := by
  unfold last
  congr 1
  fun_induction eraseFirst ts h
  case case1 => rfl
  case case2 t r e => simp [show ¬ t.host = x from fun e' => hne (e' ▸ e)]   -- the erased tunnel is not one for `x`
  case case3 t r e ih => simp [List.filter_cons, ih]

theorem unpublish_quiescent (s : St) (h : String) (q : Quiescent s) : Quiescent (unpublish s h) := by
  have e : unpublish s h =
      if s.tunnels.any (·.host = h) then install s (eraseFirst s.tunnels h) (· = h) else s := by
    -- `← q.closed`: `install` writes `window := none` where `unpublish` leaves `s.window`
    simp only [unpublish, install, ← q.closed]
  rw [e]
  split
  · apply install_quiescent s _ _ q.router.sub q.proxy
    intro x r _ hc hd
    rw [last_eraseFirst_ne s.tunnels h x (by simpa using hd)]
    exact hc
  · exact q

theorem reload_eq (s : St) (next : List Tunnel) (hw : s.window = none) (ha : accepts next = true) :
    reload s next = rebuild (rebuild s next) next := by
  cases s with
  | mk tunnels router proxies window =>
    simp only at hw; subst hw
    simp only [reload, ha, if_true]
    rfl

/-- A reload whose file fails validation (any tunnel with an unparsable /
unsupported target, an unknown header mode, or custom mode without a header host) leaves the
configuration, the router and the proxy cache exactly as they were. -/
theorem rejected_reload_noop (s : St) (next : List Tunnel) (hr : accepts next = false) :
    reload s next = s := by
  simp [reload, hr]

theorem step_quiescent (s : St) (op : Op) (q : Quiescent s) : Quiescent (step s op) := by
  cases op with
  | rebuild n => exact q.rebuild n
  | reload n =>
    simp only [step]
    cases ha : accepts n with
    | true =>
      rw [reload_eq s n q.closed ha]
      exact (q.rebuild n).rebuild n
    | false => rw [rejected_reload_noop s n ha]; exact q
  | unpublish h => exact unpublish_quiescent s h q
  | incoming h => exact (incoming_spec s h q).1
  | reloadUnreadable => exact q

theorem run_quiescent (ops : List Op) (s : St) (q : Quiescent s) : Quiescent (run s ops) :=
  List.foldlRecOn ops step q fun s q op _ => step_quiescent s op q

/-- Start a client on any configuration, let it synchronise once
(`RebuildTunnels`), then run ANY sequence of rebuilds, reloads, tunnel removals and incoming
connections, each to completion (no connection inside a rebuild window): the next connection for any
non-empty hostname is served with that hostname's currently configured target and options; if the
hostname is not configured it is not forwarded. (`forwarding_locked` extends this to connections that
arrive while a change is in progress.) -/
theorem sequential_forwarding (ts first : List Tunnel) (ops : List Op) (h : String) (hne : h ≠ "") :
    (incoming (run (rebuild (init ts) first) ops) h).2 = current (run (rebuild (init ts) first) ops) h :=
  (incoming_spec _ h (run_quiescent ops _ (start_quiescent ts first))).2 hne

theorem removed_not_forwarded (ts first : List Tunnel) (ops : List Op) (h : String) (hne : h ≠ "")
    (hrem : last (run (rebuild (init ts) first) ops).tunnels h = none) :
    (incoming (run (rebuild (init ts) first) ops) h).2 = none := by
  rw [sequential_forwarding ts first ops h hne, current, hrem]; rfl

/-- In every state reached sequentially, a cached proxy was built for
exactly the route the router holds, which is the configured one. -/
theorem proxy_matches_router (ts first : List Tunnel) (ops : List Op) (h : String) (r : Route) (hne : h ≠ "")
    (hp : (run (rebuild (init ts) first) ops).proxies h = some r) :
    (run (rebuild (init ts) first) ops).router h = some r ∧ current (run (rebuild (init ts) first) ops) h = some r := by
  have q := run_quiescent ops _ (start_quiescent ts first)
  have := q.proxy h r hne hp
  exact ⟨this, by rw [← q.router h hne]; exact this⟩

theorem run_append (s : St) (a b : List Op) : run s (a ++ b) = run (run s a) b :=
  List.foldl_append

theorem reload_tunnels (s : St) (next : List Tunnel) (ha : accepts next = true) :
    (reload s next).tunnels = next := by
  simp only [reload, ha, if_true]; rfl

/-- After ANY history, a reload that is rejected by validation
(`bad`, which may at the same time retarget or drop hostnames) followed by a reload of an accepted
file `good`: the next connection for any non-empty hostname is served exactly as `good` says — with
`good`'s route for that hostname, and not forwarded when `good` does not list it. The rejected file
leaves no trace (in particular it does not become the "previous" list the next diff is taken against). -/
theorem corrected_reload_forwarding (ts first : List Tunnel) (ops : List Op) (bad good : List Tunnel)
    (h : String) (hne : h ≠ "") (hb : accepts bad = false) (hg : accepts good = true) :
    (incoming (run (rebuild (init ts) first) (ops ++ [.reload bad, .reload good])) h).2
      = (last good h).map (·.route) := by
  rw [sequential_forwarding ts first _ h hne, run_append]
  simp only [run, List.foldl, step, current]
  rw [rejected_reload_noop _ bad hb, reload_tunnels _ good hg]

/-- what `forwarding_locked` says of a run -/
def Correct (r : St × List Served) : Prop := Quiescent r.1 ∧ ∀ x ∈ r.2, x.h ≠ "" → x.route = x.want

theorem Correct.seq {a b : St × List Served} (ha : Correct a) (hb : Correct b) : Correct (b.1, a.2 ++ b.2) :=
  ⟨hb.1, fun x hx => (List.mem_append.mp hx).elim (ha.2 x) (hb.2 x)⟩

theorem serveAll_spec (hs : List String) (s : St) (q : Quiescent s) : Correct (serveAll s hs) := by
  fun_induction serveAll s hs
  case case1 s => exact ⟨q, by simp⟩
  case case2 s h hs r rest ih =>
    have one : Correct (r.1, [⟨h, r.2, current s h⟩]) :=
      ⟨(incoming_spec s h q).1, by simpa using (incoming_spec s h q).2⟩
    exact one.seq (ih one.1)

theorem stepLocked_spec (s : St) (e : Ev) (q : Quiescent s) : Correct (stepLocked s e) := by
  fun_cases stepLocked s e
  case case1 new d => exact serveAll_spec d _ (q.rebuild new)
  case case2 next d1 d2 _ a b =>     -- accepted reload: two locked sections
    have ha : Correct a := serveAll_spec d1 _ (q.rebuild next)
    exact ha.seq (serveAll_spec d2 _ (ha.1.rebuild next))
  case case3 next d1 d2 _ => exact serveAll_spec _ s q     -- rejected reload
  case case4 h d => exact serveAll_spec d _ (unpublish_quiescent s h q)
  case case5 h => exact serveAll_spec [h] s q

theorem runLocked_spec (es : List Ev) (s : St) (q : Quiescent s) : Correct (runLocked s es) := by
  fun_induction runLocked s es
  case case1 s => exact ⟨q, by simp⟩
  case case2 s e es a b ih => exact (stepLocked_spec s e q).seq (ih (stepLocked_spec s e q).1)

/-- Primary theorem. Start a client on any configuration, let it synchronise once,
then run ANY schedule: configuration changes (rebuild, reload, tunnel removal) each with any
connections arriving while the change is in progress, and connections arriving in between. Every
connection for a non-empty hostname is served with the route configured for that hostname at the
moment it is resolved (`want`; `none` = not configured = not forwarded), and the client ends with
router = configuration and every cached proxy built for the configured route. -/
theorem forwarding_locked (ts first : List Tunnel) (evs : List Ev) :
    Quiescent (runLocked (rebuild (init ts) first) evs).1 ∧
    ∀ x ∈ (runLocked (rebuild (init ts) first) evs).2, x.h ≠ "" → x.route = x.want :=
  runLocked_spec evs _ (start_quiescent ts first)

/-- PRE-FIX interleaving (why the lock is needed): from any quiescent state in which `h` is routed
to `a`, a rebuild that changes `h`'s route to `b ≠ a`, with ONE connection for `h` arriving between
`closeOutdatedProxies` and `buildRouter`, ends in a state (no change in progress) where new
connections for `h` are still served with the old route `a`. -/
theorem window_stale (s : St) (q : Quiescent s) (h : String) (hne : h ≠ "") (a : Route) (new : List Tunnel)
    (tb : Tunnel) (ha : s.router h = some a) (hb : last new h = some tb) (hab : tb.route ≠ a) :
    let s' := wEnd (incoming (wBegin s new) h).1
    s'.window = none ∧ (incoming s' h).2 = some a ∧ current s' h = some tb.route ∧ current s' h ≠ some a := by
  obtain ⟨o, ho, rfl⟩ : ∃ o, last s.tunnels h = some o ∧ o.route = a :=
    Option.map_eq_some_iff.mp ((q.router h hne).symm.trans ha)
  have hd : inDiff s.tunnels new h = true :=
    (diff_sound s.tunnels new h).2 ⟨hne, o, ho, by simpa [hb] using hab⟩
  simp [wBegin, incoming, ha, closeOutdated, hd, wEnd, buildRouter, hb, current, hab]

/-! ## non-vacuity / witness -/

def rA : Route := ⟨"b0", false, 0, "", ""⟩
def rB : Route := ⟨"b1", false, 0, "", ""⟩

/-- The PRE-FIX schedule on an instance: rebuild [h→b0]; connection; rebuild [h→b1] with one connection inside the
window; afterwards a connection for h is served by the proxy for b0 although b1 is configured. -/
theorem c44_witness :
    let s0 := rebuild (init []) [⟨"h", rA⟩]
    let s1 := (incoming s0 "h").1
    let s2 := wBegin s1 [⟨"h", rB⟩]
    let s3 := (incoming s2 "h").1
    let s4 := wEnd s3
    (incoming s4 "h").2 = some rA ∧ current s4 "h" = some rB ∧ s4.window = none := by
  decide +kernel

/-- the same schedule under the locked semantics: the in-window connection waits and is served with b1 -/
example :
    (runLocked (rebuild (init []) [⟨"h", rA⟩]) [.arrive "h", .rebuild [⟨"h", rB⟩] ["h"], .arrive "h"]).2.map
      (fun x => (x.route, x.want)) = [(some rA, some rA), (some rB, some rB), (some rB, some rB)] := by
  decide +kernel

/-- the sequential theorem on a non-trivial instance: route change, removal, re-adding -/
example :
    let s := run (rebuild (init []) [⟨"h", rA⟩, ⟨"g", rA⟩])
      [.incoming "h", .incoming "g", .rebuild [⟨"h", rB⟩], .incoming "h", .reload [⟨"h", rB⟩, ⟨"g", rB⟩]]
    (incoming s "h").2 = some rB ∧ (incoming s "g").2 = some rB ∧ (incoming s "zz").2 = none := by
  decide +kernel

def rBad : Route := ⟨"!scheme", false, 0, "", ""⟩

example : accepts [⟨"h", rB⟩, ⟨"c", rBad⟩] = false ∧ accepts [⟨"h", rB⟩] = true ∧
    accepts [⟨"h", ⟨"b0", false, 0, "", "custom"⟩⟩] = false ∧ accepts [⟨"h", ⟨"b0", false, 0, "", "bogus"⟩⟩] = false ∧
    accepts [⟨"h", ⟨"b0", false, 0, "x", "custom"⟩⟩] = true := by decide +kernel

/-- rejected_reload_noop / corrected_reload_forwarding on the operator's story: h→b0 and g→b0 served;
the edited file retargets h, drops g and has a typo in a third tunnel (rejected: h and g still served
as before); the typo is fixed: h goes to b1, g is no longer forwarded. -/
example :
    let s1 := run (rebuild (init []) [⟨"h", rA⟩, ⟨"g", rA⟩]) [.incoming "h", .incoming "g", .reload [⟨"h", rB⟩, ⟨"c", rBad⟩]]
    let s2 := run s1 [.incoming "h", .reload [⟨"h", rB⟩]]
    (incoming s1 "h").2 = some rA ∧ (incoming s1 "g").2 = some rA ∧ current s1 "h" = some rA ∧
    (incoming s2 "h").2 = some rB ∧ (incoming s2 "g").2 = none := by
  decide +kernel

example : inDiff [⟨"h", rA⟩, ⟨"g", rA⟩] [⟨"h", rB⟩] "h" = true ∧ inDiff [⟨"h", rA⟩, ⟨"g", rA⟩] [⟨"h", rB⟩] "g" = true ∧
    inDiff [⟨"h", rA⟩] [⟨"h", rA⟩, ⟨"n", rB⟩] "n" = false := by decide +kernel

end Specter.C44
