import SpecterModel.C07.Model
import SpecterModel.C07.Props
/-!
# C07 — the retry loop of `Leave()` (model: `C07/Model.lean`)

A leave attempt that fails part-way (refused by a busy successor, busy leaver, failed transfer, …) is
retried after `StabilizeInterval`; in between, the ring may change arbitrarily (`env`). For EVERY environment,
every ring and every number of attempts the loop is ONE `executeLeave`, on the ring as the environment left it for
some attempt, the earlier attempts having failed (`leaveRetry_is_attempt`). So a leave that goes through asks the
successor and advises the predecessor the leaver has AT THAT MOMENT and hands that successor every data entry it
then holds; nothing of a failed attempt survives into it. If all attempts fail, the last one leaves every node in
the lifecycle state in which it found it (with C06 per attempt: no attempt leaves a lock behind).

`retry_across_join_witness` (kernel-evaluated) is the scenario the harness runs on real nodes: the
highest-id node leaves while its successor is locked for a joiner placed between them; the first attempt
is refused, the join concludes, the retry hands the keys to the JOINER and every key stays readable
through every remaining node. `reread_is_needed` shows the same ring with an attempt that addresses the
successor of the failed attempt instead: the keys end on a node that is not responsible for them and are
unreachable.
-/
namespace Specter.C07
open Specter.Ring Specter.C06 Specter.C05

/-- the shared model's `leave` is `Leave()` with a single attempt -/
theorem leave_is_single_attempt (env : Nat → Net → Net) (net : Net) (l : Nat) :
    leaveWith env 1 net l = leave net l := by
  unfold leaveWith leave
  cases net.get l with
  | none => rfl
  | some nd =>
    simp only [Nat.sub_self, leaveRetry]
    -- `leaveFinish` is the tail of `leave`, branch by branch
    rcases executeLeave net l with ⟨n1, e | _ | ⟨pre, succ⟩⟩ <;> rfl

theorem leaveRetry_is_attempt (env : Nat → Net → Net) (l : Nat) : ∀ (more k : Nat) (net : Net),
    ∃ j, j ≤ more ∧
      (∀ i, i < j → ∃ e, (executeLeave (ringBefore env l i k net) l).2 = .error e) ∧
      leaveRetry env l more k net = executeLeave (ringBefore env l j k net) l ∧
      (j = more ∨ ∃ r, (executeLeave (ringBefore env l j k net) l).2 = .ok r) := by
  intro more k net
  fun_induction leaveRetry env l more k net
  · -- the last attempt allowed
    exact ⟨0, Nat.le_refl 0, fun i hi => absurd hi (Nat.not_lt_zero i), rfl, Or.inl rfl⟩
  · rename_i r hx -- this attempt succeeds
    exact ⟨0, Nat.zero_le _, fun i hi => absurd hi (Nat.not_lt_zero i), hx.symm, Or.inr ⟨r, congrArg Prod.snd hx⟩⟩
  · rename_i k net n1 e hx ih -- it fails: the loop goes on
    obtain ⟨j, hj, hfail, heq, hlast⟩ := ih
    have hring : ∀ i, ringBefore env l (i + 1) k net = ringBefore env l i (k + 1) (env k n1) := by
      intro i
      simp only [ringBefore, hx]
    refine ⟨j + 1, Nat.succ_le_succ hj, ?_, ?_, ?_⟩
    · intro i hi
      cases i with
      | zero => exact ⟨e, congrArg Prod.snd hx⟩
      | succ i =>
        rw [hring]
        exact hfail i (Nat.lt_of_succ_lt_succ hi)
    · rw [hring]
      exact heq
    · rw [hring]
      exact hlast.imp (congrArg (· + 1)) id

/-- **A leave that goes through is one fresh attempt on the current ring.** If the loop ends with
success, there is an attempt number `j` such that all earlier attempts failed and the result IS
`executeLeave` applied to the ring as attempt `j` found it. -/
theorem leaveRetry_ok_is_fresh_attempt (env : Nat → Net → Net) (l : Nat) :
    ∀ (more k : Nat) (net net' : Net) (r : Option (Nat × Nat)),
      leaveRetry env l more k net = (net', .ok r) →
      ∃ j, j ≤ more ∧
        (∀ i, i < j → ∃ e, (executeLeave (ringBefore env l i k net) l).2 = .error e) ∧
        executeLeave (ringBefore env l j k net) l = (net', .ok r) := by
  intro more k net net' r h
  obtain ⟨j, hj, hfail, heq, _⟩ := leaveRetry_is_attempt env l more k net
  exact ⟨j, hj, hfail, heq.symm.trans h⟩

theorem executeLeave_ok_facts (net net' : Net) (l pre succ : Nat)
    (h : executeLeave net l = (net', .ok (some (pre, succ)))) :
    ∃ nd n1 n2, net.get l = some nd ∧ nd.pred = some pre ∧ nd.succs.head? = some succ ∧
      leaveLocks net l succ = (n1, none) ∧ transferDown n1 l succ nd.store = some n2 ∧
      net' = n2.upd l (fun nd => { nd with surrogate := some l }) := by
  revert h
  fun_cases executeLeave net l
  case case7 nd hg _ hp _ hs _ n1 hl n2 ht =>
    rintro ⟨⟩
    exact ⟨nd, n1, n2, hg, hp, hs, hl, ht, rfl⟩
  -- every other branch returns an error or `ok none`
  all_goals rintro ⟨⟩

/-- **One attempt reads the pointers of the moment**: the successor that was locked and received the
keys is the head of the leaver's successor list in the ring the attempt started on, the predecessor
that will be advised is its predecessor pointer in that ring. -/
theorem executeLeave_ok_reads_pointers (net net' : Net) (l pre succ : Nat)
    (h : executeLeave net l = (net', .ok (some (pre, succ)))) :
    ∃ nd, net.get l = some nd ∧ nd.pred = some pre ∧ nd.succs.head? = some succ := by
  obtain ⟨nd, _, _, hg, hp, hs, _⟩ := executeLeave_ok_facts net net' l pre succ h
  exact ⟨nd, hg, hp, hs⟩

/-- **The retry loop hands over to the CURRENT successor.** Whatever happened between the attempts,
the attempt that goes through addresses the successor (and predecessor) the leaver has in the ring of
that moment — not the one an earlier, failed attempt talked to. -/
theorem leaveRetry_hands_to_current_successor (env : Nat → Net → Net) (l more k : Nat) (net net' : Net)
    (pre succ : Nat) (h : leaveRetry env l more k net = (net', .ok (some (pre, succ)))) :
    ∃ j, j ≤ more ∧ ∃ nd, (ringBefore env l j k net).get l = some nd ∧
      nd.pred = some pre ∧ nd.succs.head? = some succ := by
  obtain ⟨j, hj, _, hok⟩ := leaveRetry_ok_is_fresh_attempt env l more k net net' _ h
  exact ⟨j, hj, executeLeave_ok_reads_pointers _ _ l pre succ hok⟩

/-- **Delivery of one attempt.** If the keys of the leaver's store are pairwise distinct and none of them
exists at the successor, then after a successful attempt every data entry of the leaver is held by that
successor (same key, hash, simple value, children set) and the leaver holds no data. -/
theorem executeLeave_ok_delivers (net net' : Net) (l pre succ : Nat) (nd nds : Node)
    (hg : net.get l = some nd) (hgs : net.get succ = some nds)
    (hnd : (nd.store.map (·.key)).Nodup)
    (hdisj : ∀ e ∈ nds.store, ∀ m ∈ nd.store, e.key ≠ m.key)
    (h : executeLeave net l = (net', .ok (some (pre, succ)))) :
    (∀ e ∈ nd.store, e.isDeleted = false →
        ∃ nds', net'.get succ = some nds' ∧ importedEntry e ∈ nds'.store) ∧
    (∃ ndl', net'.get l = some ndl' ∧ ∀ e ∈ ndl'.store, e.isDeleted = true) := by
  obtain ⟨nd0, n1, n2, hg0, _, _, hl, ht, rfl⟩ := executeLeave_ok_facts net net' l pre succ h
  rw [hg] at hg0
  cases hg0
  obtain ⟨hls, _, nds0, hgs0, _, _, hget⟩ := leaveLocks_ok net n1 l succ hl
  rw [hgs] at hgs0
  cases hgs0
  have hg1l : n1.get l = some { nd with state := .leaving } := by
    rw [hget, if_pos rfl, hg]
    rfl
  have hg1s : n1.get succ = some { nds with state := .transferring } := by
    rw [hget, if_neg (Ne.symm hls), if_pos rfl]
  constructor
  · intro e he hd
    -- the range (0, 0] is the whole ring
    have hmem : e ∈ rangeKeys nd.store 0 0 := (mem_rangeKeys _ _ _ _).mpr ⟨he, between_self 0 _, hd⟩
    have hg2s := handOver_get_dst n1 n2 l succ _ _ hls ht hg1s
    exact ⟨_, (get_upd_other _ _ _ _ (Ne.symm hls)).trans hg2s, import_delivers _ nds.store (filter_keys_nodup hnd _)
      (fun x hx m hm => hdisj x hx m ((mem_rangeKeys _ _ _ _).mp hm).1) e hmem⟩
  · obtain ⟨ndl', hgl', hempty⟩ := transferDown_source_empty n1 n2 l succ { nd with state := .leaving } hls hg1l ht
    refine ⟨{ ndl' with surrogate := some l }, ?_, hempty⟩
    rw [get_upd_same, hgl']; rfl

/-- **Delivery of the retry loop**: whatever the environment did between the attempts, when the leave
goes through the leaver's data of that moment is at its successor of that moment. -/
theorem leaveRetry_ok_delivers (env : Nat → Net → Net) (l more k : Nat) (net net' : Net)
    (pre succ : Nat) (h : leaveRetry env l more k net = (net', .ok (some (pre, succ)))) :
    ∃ j, j ≤ more ∧ ∃ nd, (ringBefore env l j k net).get l = some nd ∧ nd.succs.head? = some succ ∧
      ∀ nds, (ringBefore env l j k net).get succ = some nds →
        (nd.store.map (·.key)).Nodup → (∀ e ∈ nds.store, ∀ m ∈ nd.store, e.key ≠ m.key) →
        (∀ e ∈ nd.store, e.isDeleted = false →
            ∃ nds', net'.get succ = some nds' ∧ importedEntry e ∈ nds'.store) ∧
        (∃ ndl', net'.get l = some ndl' ∧ ∀ e ∈ ndl'.store, e.isDeleted = true) := by
  obtain ⟨j, hj, _, hok⟩ := leaveRetry_ok_is_fresh_attempt env l more k net net' _ h
  obtain ⟨nd, hg, _, hs⟩ := executeLeave_ok_reads_pointers _ _ l pre succ hok
  refine ⟨j, hj, nd, hg, hs, ?_⟩
  intro nds hgs hnd hdisj
  exact executeLeave_ok_delivers _ _ l pre succ nd nds hg hgs hnd hdisj hok

/-- **Giving up locks nobody.** If every attempt failed, the last attempt returned every node to the
lifecycle state in which it found the ring (and so did every earlier attempt: C06). -/
theorem leaveRetry_error_restores (env : Nat → Net → Net) (l : Nat) :
    ∀ (more k : Nat) (net net' : Net) (e : Err), leaveRetry env l more k net = (net', .error e) →
      ∀ n, stateOf net' n = stateOf (ringBefore env l more k net) n := by
  intro more k net net' e h n
  obtain ⟨j, _, _, heq, hlast⟩ := leaveRetry_is_attempt env l more k net
  rw [heq] at h
  rcases hlast with rfl | ⟨r, hr⟩
  · exact executeLeave_failure_restores _ net' l e h n
  · rw [h] at hr; cases hr

/-- ring 100 → 300 → 500 (→ 100); key "k" (hash 400) is owned by 500, key "a" (hash 50) by 100 -/
def ring3 : Net :=
  [(100, { state := .active, pred := some 500, succs := [300, 500, 100], fingers := List.replicate 48 (some 300),
           store := [⟨"a", 50, some "x", []⟩] }),
   (300, { state := .active, pred := some 100, succs := [500, 100, 300], fingers := List.replicate 48 (some 500) }),
   (500, { state := .active, pred := some 300, succs := [100, 300, 500], fingers := List.replicate 48 (some 100),
           store := [⟨"k", 400, some "v", []⟩] }),
   (700, { state := .inactive })]

/-- 700 joins through 300; the join is held right after its tasks started, before its first `FinishJoin`:
100 is `Transferring` (locked for the joiner), 500 has not been told -/
def heldJoin : Net := joinTasks (joinBegin ring3 700 300).1 700

/-- the rest of the join: advisory to the predecessor 500, Joining → Active, release of 100's lock -/
def concludeJoin (net : Net) : Net := joinRelease (joinAdvise net 700) 700

/-- the join concludes during the first retry delay; nothing else happens -/
def envJoin : Nat → Net → Net
  | 0, net => concludeJoin net
  | _, net => net

def repairRound (net : Net) : Net :=
  [Task.checkPredecessor 100, .stabilize 100, .fixFinger 100, .checkPredecessor 300, .stabilize 300, .fixFinger 300,
   .checkPredecessor 700, .stabilize 700, .fixFinger 700].foldl runTask net

def settle (net : Net) : Net := repairRound (repairRound (repairRound net))

def getVia (net : Net) (via : Nat) (key : String) (h : Nat) : KvOut := (kvAt net 8 via key h .get).2

def attemptErr (a : Attempt) : Option Err := match a.2 with | .error e => some e | .ok _ => none
def attemptOk (a : Attempt) : Option (Option (Nat × Nat)) := match a.2 with | .error _ => none | .ok r => some r

/-- the ring after `Leave()` of 500 (with its retry loop) in the environment in which the join concludes
during the first retry delay, and three repair rounds of the remaining nodes -/
def finGood : Net := settle (leaveWithRetries envJoin heldJoin 500).1

/-- **The harness scenario on the model.** The first attempt of 500 is refused by the locked 100; the
join concludes; the retry asks 700 — 500's successor by then — and hands it the key; 500 is `Left`,
100, 300 and 700 are `Active`, and both keys are readable through all three. -/
theorem retry_across_join_witness :
    attemptErr (executeLeave heldJoin 500) = some .leaveInvalidState ∧
    stateOf heldJoin 100 = some .transferring ∧
    attemptOk (leaveRetry envJoin 500 (maxAttempts - 1) 0 heldJoin) = some (some (300, 700)) ∧
    stateOf finGood 500 = some .left ∧ stateOf finGood 100 = some .active ∧
    stateOf finGood 300 = some .active ∧ stateOf finGood 700 = some .active ∧
    getVia finGood 100 "k" 400 = .value (some "v") ∧ getVia finGood 300 "k" 400 = .value (some "v") ∧
    getVia finGood 700 "k" 400 = .value (some "v") ∧
    getVia finGood 100 "a" 50 = .value (some "x") ∧ getVia finGood 300 "a" 50 = .value (some "x") ∧
    getVia finGood 700 "a" 50 = .value (some "x") := by decide +kernel

/-- one attempt that addresses a GIVEN node instead of the current successor (this is NOT what the code
does; it is the behaviour the theorems above exclude) -/
def executeLeaveTo (net : Net) (l stale : Nat) : Attempt :=
  executeLeave (net.upd l (fun nd => { nd with succs := stale :: nd.succs })) l

/-- same ring, same refused first attempt, join concluded; then an attempt that still addresses 100 -/
def finStale : Net :=
  settle (leaveFinish 500 (executeLeaveTo (concludeJoin (executeLeave heldJoin 500).1) 500 100)).1

def kvValue : KvOut → Option (Option String) | .value v => some v | _ => none

/-- **Reading the successor anew is necessary.** A retry that still addressed 100 (the successor of the
failed attempt, Active again once the join concluded) would be accepted, 500 would leave, and key "k" —
owned by 700 now, stored at 100 — would be unreachable through every remaining node after repair. -/
theorem reread_is_needed :
    attemptOk (executeLeaveTo (concludeJoin (executeLeave heldJoin 500).1) 500 100) = some (some (300, 100)) ∧
    stateOf finStale 500 = some .left ∧ stateOf finStale 100 = some .active ∧
    stateOf finStale 300 = some .active ∧ stateOf finStale 700 = some .active ∧
    kvValue (getVia finStale 100 "k" 400) ≠ some (some "v") ∧
    kvValue (getVia finStale 300 "k" 400) ≠ some (some "v") ∧
    kvValue (getVia finStale 700 "k" 400) ≠ some (some "v") := by decide +kernel

/-! ### non-vacuity of the general theorems (their hypotheses hold on the scenario above) -/

theorem attemptOk_eq (a : Attempt) (r : Option (Nat × Nat)) (h : attemptOk a = some r) : a = (a.1, .ok r) := by
  rcases a with ⟨n, res⟩
  cases res with
  | error e => simp [attemptOk] at h
  | ok v => simp [attemptOk] at h; subst h; rfl

theorem attemptErr_eq (a : Attempt) (e : Err) (h : attemptErr a = some e) : a = (a.1, .error e) := by
  rcases a with ⟨n, res⟩
  cases res with
  | error e' => simp [attemptErr] at h; subst h; rfl
  | ok v => simp [attemptErr] at h

/-- the loop of the scenario ends with success, so `leaveRetry_ok_is_fresh_attempt`,
`leaveRetry_hands_to_current_successor` and `leaveRetry_ok_delivers` apply to it; the successor they
speak of is the joiner 700 -/
example : ∃ j, j ≤ 9 ∧ ∃ nd, (ringBefore envJoin 500 j 0 heldJoin).get 500 = some nd ∧
    nd.pred = some 300 ∧ nd.succs.head? = some 700 :=
  leaveRetry_hands_to_current_successor envJoin 500 9 0 heldJoin _ 300 700
    (attemptOk_eq _ _ retry_across_join_witness.2.2.1)

/-- the ring found by the second attempt: its leaver holds the data key "k" (distinct keys), the current
successor 700 holds none of the leaver's keys — the hypotheses of `executeLeave_ok_delivers` -/
example :
    (((ringBefore envJoin 500 1 0 heldJoin).get 500).map (fun nd => nd.store.map (·.key))) = some ["k"] ∧
    (((ringBefore envJoin 500 1 0 heldJoin).get 700).map (fun nd => nd.store.map (·.key))) = some [] ∧
    attemptOk (executeLeave (ringBefore envJoin 500 1 0 heldJoin) 500) = some (some (300, 700)) := by
  decide +kernel

/-- if the join never concludes, all ten attempts are refused: the hypothesis of
`leaveRetry_error_restores` holds, and the successor is still locked for the joiner only -/
theorem join_held_witness :
    attemptErr (leaveRetry (fun _ net => net) 500 (maxAttempts - 1) 0 heldJoin) = some .leaveInvalidState ∧
    stateOf (leaveRetry (fun _ net => net) 500 (maxAttempts - 1) 0 heldJoin).1 500 = some .active := by
  decide +kernel

example : attemptErr (leaveRetry (fun _ net => net) 500 (maxAttempts - 1) 0 heldJoin) = some .leaveInvalidState ∧
    stateOf (leaveRetry (fun _ net => net) 500 (maxAttempts - 1) 0 heldJoin).1 500 = some .active :=
  join_held_witness

example : ∀ n, stateOf (leaveRetry (fun _ net => net) 500 9 0 heldJoin).1 n =
    stateOf (ringBefore (fun _ net => net) 500 9 0 heldJoin) n :=
  leaveRetry_error_restores _ 500 9 0 heldJoin _ .leaveInvalidState (attemptErr_eq _ _ join_held_witness.1)

end Specter.C07
