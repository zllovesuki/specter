import SpecterModel.C06.Props
import SpecterModel.C05.Props
/-!
# C07 — A failed or timed-out join or leave loses no data and locks no node

The full statement is FALSE for the current protocol: a membership lock (`Transferring`) is only ever
released by the `FinishJoin/FinishLeave(release)` RPC of the node that took it. Proved here:

* the repair tasks (stabilize, fixFinger, checkPredecessor of any nodes, in any order and number) write pointer
  fields only (`repair_keeps`), so they change no lifecycle state and no store (`repair_preserves_states`,
  `repair_preserves_stores`; beside the latter, the steps of `Join` that leave every store alone);
* with C06 (a busy node refuses and changes nothing) this gives `lock_is_permanent`: once the releasing message
  is lost — or the requester never learns that its request was executed — the successor is `Transferring` after
  every sequence of repair tasks and refuses every join hand-off and leave request;
* `rtj_lost_witness`, `release_fail_witness`: concrete rings in which a `RequestToJoin` whose response is
  lost / a `FinishJoin(release)` that is not delivered leaves the successor locked and a previously acknowledged
  key unreadable after three repair rounds;
* the safe side: a request that is NOT delivered changes nothing (`C08.refusal_changes_nothing`,
  `C06.requestToLeave_fail`), a failed `Import` makes the hand-off fail cleanly with every lock released
  (`C06.executeLeave_failure_restores`, `handOff_cases`), and the retry then runs on the unchanged ring.

`expectedSafe` is the resulting table; the harness runs every tuple on real nodes with real timers.
-/
namespace Specter.C07
open Specter.Ring Specter.C06

/-- `π` does not read the pointer fields of a node, the only fields the repair tasks write -/
def PointerBlind {α : Type} (π : Node → α) : Prop :=
  ∀ (nd : Node) (pred : Option Nat) (succs : List Nat) (surrogate : Option Nat) (fingers : List (Option Nat)),
    π { nd with pred := pred, succs := succs, surrogate := surrogate, fingers := fingers } = π nd

section
variable {α : Type} {π : Node → α} (hπ : PointerBlind π)
include hπ

theorem notify_keeps (net : Net) (n p m : Nat) :
    ((notify net n p).get m).map π = (net.get m).map π := by
  fun_cases notify net n p
  · rfl -- unknown node
  · rfl -- the node does not answer
  · rfl -- the predecessor stays
  · -- new predecessor
    exact get_upd_map π net n m _ (fun nd _ => hπ nd _ _ _ _)

theorem stabilize_keeps (net : Net) (n m : Nat) :
    ((stabilize net n).get m).map π = (net.get m).map π := by
  have base (l : List Nat) := get_upd_map π net n m (fun nd => { nd with succs := l }) (fun nd _ => hπ nd _ _ _ _)
  fun_cases stabilize net n
  · rfl -- unknown node
  · rfl -- no successor answers
  · rw [notify_keeps hπ] -- new list, its head notified
    exact base _
  · exact base _ -- new list, no notification while leaving
  · exact base _ -- new list, empty

theorem fixK_keeps (net : Net) (n k m : Nat) :
    ((fixK net n k).get m).map π = (net.get m).map π := by
  fun_cases fixK net n k
  · exact get_upd_map π net n m _ (fun nd _ => hπ nd _ _ _ _) -- finger found
  · rfl -- lookup failed

theorem fixFinger_keeps (net : Net) (n m : Nat) :
    ((fixFinger net n).get m).map π = (net.get m).map π :=
  List.foldlRecOn (motive := fun net' => (net'.get m).map π = (net.get m).map π) _ _ rfl
    fun net' h k _ => (fixK_keeps hπ net' n (k + 1) m).trans h

theorem checkPredecessor_keeps (net : Net) (n m : Nat) :
    ((checkPredecessor net n).get m).map π = (net.get m).map π := by
  fun_cases checkPredecessor net n
  · rfl -- unknown node
  · rfl -- no predecessor
  · rfl -- its own predecessor
  · rfl -- the predecessor answers
  · -- the predecessor is dropped
    exact get_upd_map π net n m _ (fun nd _ => hπ nd _ _ _ _)

end

/-- the background repair tasks -/
inductive Task where
  | stabilize (n : Nat) | fixFinger (n : Nat) | checkPredecessor (n : Nat)

def runTask (net : Net) : Task → Net
  | .stabilize n => stabilize net n
  | .fixFinger n => fixFinger net n
  | .checkPredecessor n => checkPredecessor net n

theorem repair_keeps {α : Type} {π : Node → α} (hπ : PointerBlind π) (tasks : List Task) (net : Net) (m : Nat) :
    ((tasks.foldl runTask net).get m).map π = (net.get m).map π := by
  refine List.foldlRecOn (motive := fun net' => (net'.get m).map π = (net.get m).map π) tasks runTask rfl ?_
  intro net' h t _
  cases t
  · exact (stabilize_keeps hπ net' _ m).trans h
  · exact (fixFinger_keeps hπ net' _ m).trans h
  · exact (checkPredecessor_keeps hπ net' _ m).trans h

/-- **No repair task ever changes a lifecycle state**: whatever the background tasks of whatever nodes do,
in whatever order and number, a membership lock is neither taken nor released by them. -/
theorem repair_preserves_states (tasks : List Task) (net : Net) (m : Nat) :
    stateOf (tasks.foldl runTask net) m = stateOf net m :=
  repair_keeps (π := (·.state)) (fun _ _ _ _ _ => rfl) tasks net m

def storeOf (net : Net) (n : Nat) : Option (List KEntry) := (net.get n).map (·.store)

theorem storeOf_upd (net : Net) (n m : Nat) (f : Node → Node) (hf : ∀ nd, (f nd).store = nd.store) :
    storeOf (net.upd n f) m = storeOf net m :=
  get_upd_map (·.store) net n m f (fun nd _ => hf nd)

theorem stabilize_store (net : Net) (n m : Nat) : storeOf (stabilize net n) m = storeOf net m :=
  stabilize_keeps (π := (·.store)) (fun _ _ _ _ _ => rfl) net n m

theorem fixFinger_store (net : Net) (n m : Nat) : storeOf (fixFinger net n) m = storeOf net m :=
  fixFinger_keeps (π := (·.store)) (fun _ _ _ _ _ => rfl) net n m

theorem checkPredecessor_store (net : Net) (n m : Nat) : storeOf (checkPredecessor net n) m = storeOf net m :=
  checkPredecessor_keeps (π := (·.store)) (fun _ _ _ _ _ => rfl) net n m

/-- **Background repair never moves, loses or creates data**: the store of every node is the same after
any sequence of stabilize / fixFinger / checkPredecessor tasks of any nodes. Data only moves in the two
hand-off primitives (`transferUp`, `transferDown`), whose exactness is C05. -/
theorem repair_preserves_stores (tasks : List Task) (net : Net) (m : Nat) :
    storeOf (tasks.foldl runTask net) m = storeOf net m :=
  repair_keeps (π := (·.store)) (fun _ _ _ _ _ => rfl) tasks net m

theorem storeOf_some {net : Net} {m : Nat} {st : List KEntry} (h : storeOf net m = some st) :
    ∃ x, net.get m = some x ∧ x.store = st := by
  unfold storeOf at h
  cases hx : net.get m with
  | none => simp [hx] at h
  | some x => exact ⟨x, rfl, by simpa [hx] using h⟩

theorem storeOf_get {net : Net} {m : Nat} {x : Node} (h : net.get m = some x) : storeOf net m = some x.store := by
  unfold storeOf; rw [h]; rfl

theorem store_eq_of_storeOf {net : Net} {m : Nat} {x : Node} {st : List KEntry} (h : net.get m = some x)
    (hs : storeOf net m = some st) : x.store = st :=
  Option.some.inj ((storeOf_get h).symm.trans hs)

theorem finish_store (net : Net) (n : Nat) (stab release : Bool) (m : Nat) :
    storeOf (finish net n stab release) m = storeOf net m := by
  have hX : storeOf (if stab = true then fixFinger (stabilize net n) n else net) m = storeOf net m := by
    split
    · rw [fixFinger_store, stabilize_store]
    · rfl
  fun_cases finish net n stab release
  · rfl -- unknown node
  · rfl -- crashed
  · rw [storeOf_upd _ _ _ _ (fun nd => by split <;> rfl)]; exact hX -- release
  · exact hX -- no release

theorem joinEnd_store (net : Net) (j m : Nat) : storeOf (joinEnd net j) m = storeOf net m := by
  have advise : ∀ net, storeOf (joinAdvise net j) m = storeOf net m := by
    intro net
    fun_cases joinAdvise net j
    · rfl -- unknown joiner
    · rename_i net' -- the advisory, then Active
      rw [storeOf_upd _ _ _ _ (by intro _; rfl)]
      unfold net'
      split
      · exact finish_store _ _ _ _ _
      · rfl
  have release : ∀ net, storeOf (joinRelease net j) m = storeOf net m := by
    intro net
    fun_cases joinRelease net j
    · rfl -- unknown joiner
    · rw [finish_store]; exact storeOf_upd _ _ _ _ (by intro _; rfl) -- release at the successor
    · exact storeOf_upd _ _ _ _ (by intro _; rfl) -- no successor recorded
  unfold joinEnd joinTasks
  rw [release, advise, checkPredecessor_store, fixFinger_store, stabilize_store]

theorem transferUp_stores (net1 netT : Net) (s j prev : Nat) (nds ndj : Node) (hsj : s ≠ j)
    (hgs : net1.get s = some nds) (hgj : net1.get j = some ndj)
    (h : transferUp net1 s j prev nds.store = some netT) :
    (∀ m, m ≠ s → m ≠ j → storeOf netT m = storeOf net1 m) ∧
    storeOf netT s = some (removeKeys nds.store (rangeKeys nds.store prev j)) ∧
    storeOf netT j = some (importEntries ndj.store (rangeKeys nds.store prev j)) := by
  have hT : C05.handOver net1 s j (rangeKeys nds.store prev j) = some netT := h
  refine ⟨fun m hms hmj => ?_, ?_, ?_⟩
  · unfold storeOf
    rw [C05.handOver_get _ _ _ _ _ hT m]
    cases net1.get m <;> simp [hms, hmj]
  · unfold storeOf; rw [C05.handOver_get_src _ _ _ _ _ nds hsj hT hgs]; rfl
  · unfold storeOf; rw [C05.handOver_get_dst _ _ _ _ _ ndj hsj hT hgj]; rfl

/-- **A lock whose release is lost is permanent.** If node `s` is `Transferring`, then after ANY sequence
of repair tasks it still is, and it still refuses every join hand-off and every leave request
(retryably, changing nothing), so no retry of anybody can ever succeed at `s`. -/
theorem lock_is_permanent (net : Net) (s : Nat) (h : stateOf net s = some .transferring) (tasks : List Task) :
    let net' := tasks.foldl runTask net
    stateOf net' s = some .transferring ∧
    (∀ j, (handOff net' s j).2 = .error .joinInvalidState ∧ (handOff net' s j).1 = net') ∧
    (∀ nd, net'.get s = some nd → nd.crashed = false → requestToLeave net' s = (net', some .leaveInvalidState)) := by
  intro net'
  have hst : stateOf net' s = some .transferring := (repair_preserves_states tasks net s).trans h
  obtain ⟨nd, hg, hnd⟩ := Option.map_eq_some_iff.mp hst
  have hb : nd.state ≠ .active := by rw [hnd]; decide
  refine ⟨hst, fun j => ?_, fun nd' hg' hup => ?_⟩
  · rw [busy_refuses_join net' s j nd hg hb]
    exact ⟨rfl, rfl⟩
  · rw [hg] at hg'
    cases hg'
    exact busy_refuses_leave_request net' s nd hg hup hb

/-- a successful hand-off leaves the responsible node `Transferring` (waiting for the release) -/
theorem handOff_locks (net net' : Net) (s j : Nat) (v : Nat × List Nat)
    (h : handOff net s j = (net', .ok v)) : stateOf net' s = some .transferring := by
  revert h
  fun_cases handOff net s j
  case case6 nd hg _ _ _ _ n1 ht =>
    rintro ⟨⟩
    rw [stateOf_upd, if_pos rfl]
    -- the node still exists in n1: `transferUp` only touches stores
    have hs : stateOf n1 s = some nd.state := (handOver_states net n1 s j _ ht s).trans (congrArg _ hg)
    obtain ⟨x, hx, _⟩ := Option.map_eq_some_iff.mp hs
    rw [hx]
    rfl
  -- every other branch returns an error
  all_goals rintro ⟨⟩

/-! ### concrete witnesses (the schedules the harness replays on real nodes) -/

/-- ring 100 → 200 with data on 200; 150 joins through 100 -/
def base : Net :=
  [(100, { state := .active, pred := some 200, succs := [200, 100], fingers := List.replicate 48 (some 200) }),
   (200, { state := .active, pred := some 100, succs := [100, 200], fingers := List.replicate 48 (some 100),
           store := [⟨"k", 120, some "v", []⟩, ⟨"m", 180, some "w", []⟩] }),
   (150, { state := .inactive })]

def threeRounds (net : Net) : Net :=
  [Task.checkPredecessor 100, .stabilize 100, .fixFinger 100, .checkPredecessor 200, .stabilize 200, .fixFinger 200,
   .checkPredecessor 100, .stabilize 100, .fixFinger 100, .checkPredecessor 200, .stabilize 200, .fixFinger 200,
   .checkPredecessor 100, .stabilize 100, .fixFinger 100, .checkPredecessor 200, .stabilize 200, .fixFinger 200].foldl runTask net

/-- `RequestToJoin` executed at 200, response lost: the joiner gives up (Inactive again). -/
def rtjLost : Net :=
  ((requestToJoin (base.upd 150 fun nd => { nd with state := .joining }) FUEL 100 150).1).upd 150
    (fun nd => { nd with state := .inactive })

def kvErr : KvOut → Option Err | .err e => some e | _ => none

/-- after three repair rounds: 200 is still locked, key "k" (acknowledged before) sits on the Inactive joiner and
is unreachable through both remaining nodes -/
theorem rtj_lost_witness :
    stateOf (threeRounds rtjLost) 200 = some .transferring ∧
    (kvErr (kvAt (threeRounds rtjLost) 8 100 "k" 120 .get).2).isSome = true ∧
    (kvErr (kvAt (threeRounds rtjLost) 8 200 "k" 120 .get).2).isSome = true := by decide +kernel

/-- join completed on the joiner's side but `FinishJoin(release)` to the successor was not delivered -/
def releaseFail : Net :=
  let n1 := (joinBegin base 150 100).1
  let n2 := fixFinger (stabilize n1 150) 150
  let n3 := finish n2 100 true false
  n3.upd 150 (fun nd => { nd with state := .active })

theorem release_fail_witness :
    stateOf (threeRounds releaseFail) 200 = some .transferring ∧
    (kvErr (kvAt (threeRounds releaseFail) 8 100 "m" 180 .get).2) = some .kvStale := by decide +kernel

/-- control: the fault-free join releases the lock and keeps both keys readable -/
theorem no_fault_control :
    stateOf (threeRounds (join base 150 100).1) 200 = some .active ∧
    (kvAt (threeRounds (join base 150 100).1) 8 100 "k" 120 .get).2 = .value (some "v") ∧
    (kvAt (threeRounds (join base 150 100).1) 8 100 "m" 180 .get).2 = .value (some "w") := by decide +kernel

/-- the table: `true` = the attempt and its retries end with every node Active and all data reachable -/
def expectedSafe (scenario rpc mode : String) : Bool :=
  match scenario, rpc, mode with
  | _, "none", _ => true
  | "join", "RequestToJoin", "lost" => false           -- executed, joiner never learns: successor locked, keys on a non-member
  | "join", "FinishJoin(false,true)", "fail" => false  -- release never delivered: successor locked
  | "leave", "RequestToLeave", "lost" => false          -- successor locked by a leaver that retries against its own lock
  | "leave", "FinishLeave(false,true)", "fail" => false -- release never delivered: successor locked
  -- "leave-hi@join" / "leave-lo@join" × RequestToLeave × refused (the successor is locked for a join in flight
  -- behind the leaver, the join concludes before the retry): safe — a refusal changes nothing
  -- (`C06.requestToLeave_fail`) and the retry is a fresh attempt on the ring of that moment (C07/Retry.lean)
  | _, _, _ => true

end Specter.C07
