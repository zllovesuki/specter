import SpecterModel.C01.Lemmas
/-!
# C09 — Lookups terminate in every reachable node state

`findSucc` (the model of `LocalNode.FindSuccessor`, tied to the code by the differential ring
harness) returns a node or an error after finitely many hops in EVERY pointer state:
no assumption that predecessors, successors or fingers are correct, complete or even
consistent — only that identifiers are in the 2^48 space. This covers every state of the join
protocol (neighbours learnt, fingers nil / partial / stale) and of graceful leaves.
-/
namespace Specter.C09
open Specter.Ring

/-- identifiers are in the ring (guaranteed by `NodeConfig.Validate` for node ids) -/
structure InSpace (net : Net) : Prop where
  succs : ∀ n nd, net.get n = some nd → ∀ s ∈ nd.succs, s < M
  fingers : ∀ n nd, net.get n = some nd → ∀ f, some f ∈ nd.fingers → f < M

theorem findSucc_step (net : Net) (n key : Nat) :
    (∃ r, r ≠ .err .fuel ∧ ∀ f, findSucc net (f+1) n key = r) ∨
    (∃ nd s, net.get n = some nd ∧ nd.succs.head? = some s ∧ between n key s true = false ∧
      ∀ f, findSucc net (f+1) n key = findSucc net f (hop n key s nd.fingers) key) := by
  cases hg : net.get n with
  | none => exact .inl ⟨_, by simp, fun f => findSucc_none net f n key hg⟩
  | some nd =>
    cases hc : checkNodeState nd false with
    | some e =>
      exact .inl ⟨.err e, fun h => checkNodeState_ne_fuel nd false (by injection h with h; exact h ▸ hc),
        fun f => findSucc_dead net f n key nd e hg hc⟩
    | none =>
      cases h : inPredRange nd.pred key n with
      | true => exact .inl ⟨_, by simp, fun f => findSucc_pred net f n key nd hg hc h⟩
      | false =>
        cases hs : nd.succs.head? with
        | none => exact .inl ⟨_, by simp, fun f => findSucc_nosucc net f n key nd hg hc h hs⟩
        | some s =>
          cases hb : between n key s true with
          | true => exact .inl ⟨_, by simp, fun f => findSucc_succ_found net f n key s nd hg hc h hs hb⟩
          | false => exact .inr ⟨nd, s, rfl, hs, hb, fun f => findSucc_hop net f n key s nd hg hc h hs hb⟩

/-- **C09.** In every pointer state (identifiers in the ring), a lookup issued to any node `n` for
any key ends with a node or an error — it never diverges: every forwarding hop strictly decreases
`cw key ·`, so by strong induction some fuel suffices. -/
theorem lookup_terminates (net : Net) (hw : InSpace net) (n key : Nat) (hn : n < M) (hk : key < M) :
    ∃ fuel, findSucc net fuel n key ≠ .err .fuel := by
  generalize hd : cw key n = d
  induction d using Nat.strongRecOn generalizing n with
  | ind d ih =>
    subst hd
    rcases findSucc_step net n key with ⟨r, hr, hstep⟩ | ⟨nd, s, hg, hs, hb, hstep⟩
    · exact ⟨1, by rw [hstep 0]; exact hr⟩
    · have hsM : s < M := hw.succs n nd hg s (List.mem_of_mem_head? hs)
      obtain ⟨hcM, hlt⟩ := hop_decreases n key s nd.fingers hn hk hsM (hw.fingers n nd hg) hb
      obtain ⟨fuel, hf⟩ := ih _ hlt _ hcM rfl
      exact ⟨fuel + 1, by rw [hstep fuel]; exact hf⟩

theorem findSucc_fuel_mono (net : Net) : ∀ (fuel n key : Nat) (r : Res),
    findSucc net fuel n key = r → r ≠ .err .fuel → findSucc net (fuel + 1) n key = r := by
  intro fuel
  induction fuel with
  | zero => intro n key r h hr; exact absurd h.symm hr
  | succ f ih =>
    intro n key r h hr
    rcases findSucc_step net n key with ⟨_, _, hstep⟩ | ⟨_, _, _, _, _, hstep⟩
    · rw [hstep] at h ⊢; exact h
    · rw [hstep] at h ⊢; exact ih _ _ r h hr

theorem findSucc_fuel_le (net : Net) (fuel fuel' n key : Nat) (r : Res)
    (h : findSucc net fuel n key = r) (hr : r ≠ .err .fuel) (hle : fuel ≤ fuel') :
    findSucc net fuel' n key = r := by
  induction hle with
  | refl => exact h
  | step _ ih => exact findSucc_fuel_mono net _ n key r ih hr

/-- The joining-node state that made the pre-repair code diverge: node 150 knows pred 100 and succ 200,
its finger table is still empty, key 300 is outside (100,150] and (150,200]. The repaired code
answers after two hops. -/
def joinNet : Net :=
  [(100, { state := .active, pred := some 200, succs := [150, 200], fingers := List.replicate 48 (some 150) }),
   (150, { state := .joining, pred := some 100, succs := [200, 100], fingers := List.replicate 48 none }),
   (200, { state := .active, pred := some 150, succs := [100, 150], fingers := List.replicate 48 (some 100) })]

example : findSucc joinNet 3 150 300 = .found 100 := by decide +kernel

/-- The pre-repair `FindSuccessor` (forwarding to the closest preceding node even when that is the
node itself) diverges on that state: this is the regression the repair protects against. -/
def findSuccOld (net : Net) : Nat → Nat → Nat → Res
  | 0, _, _ => .err .fuel
  | fuel+1, n, key =>
    match net.get n with
    | none => .err .unreachable
    | some nd =>
      match checkNodeState nd false with
      | some e => .err e
      | none =>
        if inPredRange nd.pred key n then .found n
        else match nd.succs.head? with
          | none => .err .noSuccessor
          | some s =>
            if between n key s true then .found s
            else findSuccOld net fuel (closestPreceding n key nd.fingers) key

theorem old_code_diverges : ∀ fuel, findSuccOld joinNet fuel 150 300 = .err .fuel := by
  intro fuel
  induction fuel with
  | zero => rfl
  | succ f ih =>
    -- one step at node 150 forwards to `closestPreceding 150 300 [nil, …] = 150` itself
    have step : findSuccOld joinNet (f+1) 150 300 = findSuccOld joinNet f 150 300 := rfl
    rw [step]; exact ih

/-! non-vacuity: the joining net satisfies the hypothesis of `lookup_terminates` (checked by evaluation) -/

def inSpaceB (net : Net) : Bool :=
  net.all fun p => p.2.succs.all (· < M) && p.2.fingers.all (fun f => match f with | some f => f < M | none => true)

theorem inSpace_of_inSpaceB (net : Net) (h : inSpaceB net = true) : InSpace net := by
  unfold inSpaceB at h
  rw [List.all_eq_true] at h
  constructor
  · intro n nd hg s hs
    have := h _ (get_mem net n nd hg)
    simp only [Bool.and_eq_true, List.all_eq_true] at this
    simpa using this.1 s hs
  · intro n nd hg f hf
    have := h _ (get_mem net n nd hg)
    simp only [Bool.and_eq_true, List.all_eq_true] at this
    simpa using this.2 (some f) hf

example : InSpace joinNet := inSpace_of_inSpaceB _ (by decide +kernel)

end Specter.C09
