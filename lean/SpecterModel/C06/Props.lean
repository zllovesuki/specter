import SpecterModel.C08.Props
import SpecterModel.C05.Props
/-!
# C06 — A node takes part in at most one membership change at a time

The membership lock of a node IS its lifecycle state (`Active → Transferring / Leaving / Joining`
by compare-and-swap, proved atomic under every schedule in C13). Here, on the ring model:

* a node that is not `Active` refuses every further join hand-off and leave request with a retryable
  error and changes nothing (`busy_refuses_*`);
* every failing branch of a join or leave attempt leaves EVERY node as it was (`join_failure_invisible`,
  `executeLeave_failure_invisible`), in particular in the lifecycle state it had (`join_failure_restores`,
  `executeLeave_failure_restores`): refused or cleanly failed attempts leave the touched nodes serving requests.
-/
namespace Specter.C06
open Specter.Ring Specter.C08

/-- the shape of taking a lock and giving it back -/
theorem get_upd_upd (net : Net) (n : Nat) (f g : Node → Node)
    (h : ∀ nd, net.get n = some nd → g (f nd) = nd) (m : Nat) :
    ((net.upd n f).upd n g).get m = net.get m := by
  rw [get_upd]
  split
  · rename_i e
    subst e
    rw [get_upd_same]
    cases hg : net.get m with
    | none => rfl
    | some nd => simp only [Option.map_some, h nd hg]
  · exact get_upd_other _ _ _ _ ‹_›

theorem set_state_eq (nd : Node) (c : St) (h : nd.state = c) : { nd with state := c } = nd := by
  cases nd
  cases h
  rfl

theorem state_of_stateOf {net : Net} {n : Nat} {nd : Node} {c : St} (hg : net.get n = some nd)
    (h : stateOf net n = some c) : nd.state = c := by
  rw [stateOf, hg] at h
  exact Option.some.inj h

/-- a node holding a membership change refuses a join hand-off: retryable, nothing changes -/
theorem busy_refuses_join (net : Net) (s j : Nat) (nd : Node) (hg : net.get s = some nd)
    (hb : nd.state ≠ .active) : handOff net s j = (net, .error .joinInvalidState) := by
  unfold handOff
  simp [hg, hb]

/-- a node holding a membership change refuses a leave request: retryable, nothing changes -/
theorem busy_refuses_leave_request (net : Net) (s : Nat) (nd : Node) (hg : net.get s = some nd)
    (hup : nd.crashed = false) (hb : nd.state ≠ .active) :
    requestToLeave net s = (net, some .leaveInvalidState) := by
  unfold requestToLeave
  simp [hg, hup, hb]

theorem refusals_are_retryable :
    Err.joinInvalidState.retryable = true ∧ Err.leaveInvalidState.retryable = true := ⟨rfl, rfl⟩

theorem requestToLeave_fail (net net' : Net) (s : Nat) (e : Err)
    (h : requestToLeave net s = (net', some e)) : net' = net := by
  revert h
  fun_cases requestToLeave net s with
  | case1 =>  -- unknown node
    rintro ⟨⟩
    rfl
  | case2 =>  -- crashed
    rintro ⟨⟩
    rfl
  | case3 => rintro ⟨⟩  -- accepted
  | case4 =>  -- busy
    rintro ⟨⟩
    rfl

theorem requestToLeave_ok (net net' : Net) (s : Nat) (h : requestToLeave net s = (net', none)) :
    ∃ nd, net.get s = some nd ∧ nd.crashed = false ∧ nd.state = .active ∧
      net' = net.upd s fun nd => { nd with state := .transferring } := by
  revert h
  fun_cases requestToLeave net s with
  | case1 => rintro ⟨⟩  -- unknown node
  | case2 => rintro ⟨⟩  -- crashed
  | case3 nd hg hup ha =>  -- accepted
    rintro ⟨⟩
    exact ⟨nd, hg, Bool.eq_false_iff.mpr hup, eq_of_beq ha, rfl⟩
  | case4 => rintro ⟨⟩  -- busy

theorem requestToLeave_succeeds (net : Net) (s : Nat) (y : Node) (hg : net.get s = some y)
    (hup : y.crashed = false) (ha : y.state = .active) :
    requestToLeave net s = (net.upd s (fun nd => { nd with state := .transferring }), none) := by
  unfold requestToLeave; simp [hg, hup, ha]

/-- releasing the membership lock of a live node -/
theorem finish_release (net : Net) (s : Nat) (nd : Node) (hg : net.get s = some nd) (hup : nd.crashed = false) :
    finish net s false true =
      net.upd s (fun nd => if nd.state == .transferring then { nd with state := .active } else nd) := by
  unfold finish; simp [hg, hup]

/-- the advisory `FinishJoin/FinishLeave(stabilize)` at a node that is up -/
theorem finish_advise (net : Net) (p : Nat) (nd : Node) (hg : net.get p = some nd) (hup : nd.crashed = false) :
    finish net p true false = fixFinger (stabilize net p) p := by
  unfold finish; simp [hg, hup]

theorem leaveLocks_fail (net net' : Net) (l succ : Nat) (e : Err)
    (h : leaveLocks net l succ = (net', some e)) : ∀ n, net'.get n = net.get n := by
  intro n
  revert h
  fun_cases leaveLocks net l succ with
  | case1 hgt n1 e' hr =>  -- successor first: it refuses
    rintro ⟨⟩
    rw [requestToLeave_fail _ _ _ _ hr]
  | case2 => rintro ⟨⟩  -- successor first: both locked
  | case3 hgt n1 hr =>  -- successor first, the leaver is busy: the successor's lock is given back
    rintro ⟨⟩
    obtain ⟨nd, hg, hup, ha, rfl⟩ := requestToLeave_ok _ _ _ hr
    rw [finish_release _ succ { nd with state := .transferring } (by rw [get_upd_same, hg]; rfl) hup]
    refine get_upd_upd net succ _ _ (fun nd' hg' => ?_) n
    rw [hg] at hg'
    cases hg'
    exact set_state_eq nd .active ha
  | case4 =>  -- leaver first: it is busy
    rintro ⟨⟩
    rfl
  | case5 hle hact net1 n1 e' hr =>  -- leaver first, the successor refuses: the leaver's lock is given back
    rintro ⟨⟩
    rw [requestToLeave_fail _ _ _ _ hr]
    have hla : stateOf net l = some .active := bne_eq_false_iff_eq.mp (Bool.eq_false_iff.mpr hact)
    exact get_upd_upd net l _ _ (fun nd hg => set_state_eq nd .active (state_of_stateOf hg hla)) n
  | case6 => rintro ⟨⟩  -- leaver first: both locked

/-- a successful lock acquisition: two distinct live Active nodes, the leaver becomes Leaving, the successor
Transferring, nothing else changes -/
theorem leaveLocks_ok (net net' : Net) (l succ : Nat) (h : leaveLocks net l succ = (net', none)) :
    l ≠ succ ∧ stateOf net l = some .active ∧
    ∃ nds, net.get succ = some nds ∧ nds.crashed = false ∧ nds.state = .active ∧
      ∀ m, net'.get m =
        if m = l then (net.get l).map (fun nd => { nd with state := .leaving })
        else if m = succ then some { nds with state := .transferring } else net.get m := by
  revert h
  fun_cases leaveLocks net l succ with
  | case1 => rintro ⟨⟩  -- successor first: it refuses
  | case2 hgt n1 hr hact =>  -- successor first: both locked
    rintro ⟨⟩
    obtain ⟨nds, hg, hup, ha, rfl⟩ := requestToLeave_ok _ _ _ hr
    have hls : l ≠ succ := Nat.ne_of_gt hgt
    rw [get_upd_other _ _ _ _ hls] at hact
    refine ⟨hls, eq_of_beq hact, nds, hg, hup, ha, fun m => ?_⟩
    rw [get_upd, get_upd_other _ _ _ _ hls, get_upd, hg]
    rfl
  | case3 => rintro ⟨⟩  -- successor first: the leaver is busy
  | case4 => rintro ⟨⟩  -- leaver first: it is busy
  | case5 => rintro ⟨⟩  -- leaver first: the successor refuses
  | case6 hle hact net1 n1 hr =>  -- leaver first: both locked
    rintro ⟨⟩
    obtain ⟨nds, hg, hup, ha, rfl⟩ := requestToLeave_ok _ _ _ hr
    -- the leaver is Leaving by now, so the node that accepted the request is another one
    have hls : l ≠ succ := by
      rintro rfl
      rw [get_upd_same] at hg
      obtain ⟨_, _, rfl⟩ := Option.map_eq_some_iff.mp hg
      cases ha
    rw [get_upd_other _ _ _ _ (Ne.symm hls)] at hg
    refine ⟨hls, bne_eq_false_iff_eq.mp (Bool.eq_false_iff.mpr hact), nds, hg, hup, ha, fun m => ?_⟩
    rw [get_upd, get_upd_other _ _ _ _ (Ne.symm hls), hg, get_upd]
    by_cases hm : m = succ
    · rw [if_pos hm, hm, if_neg (Ne.symm hls), if_pos rfl]
      rfl
    · rw [if_neg hm, if_neg hm]

theorem leaveLocks_succeeds (net : Net) (l succ : Nat) (nd nds : Node) (hls : l ≠ succ)
    (hg : net.get l = some nd) (ha : nd.state = .active)
    (hgs : net.get succ = some nds) (hups : nds.crashed = false) (has : nds.state = .active) :
    ∃ n1, leaveLocks net l succ = (n1, none) := by
  unfold leaveLocks
  by_cases hgt : l > succ
  · simp only [hgt, if_true]
    rw [requestToLeave_succeeds net succ nds hgs hups has]
    simp only [get_upd_other _ _ _ _ hls, hg, Option.map_some, ha]
    exact ⟨_, by simp; rfl⟩
  · simp only [hgt, if_false, hg, Option.map_some, ha]
    have hgs' : (net.upd l fun nd => { nd with state := .leaving }).get succ = some nds := by
      rw [get_upd_other _ _ _ _ (Ne.symm hls)]; exact hgs
    rw [requestToLeave_succeeds _ succ nds hgs' hups has]
    exact ⟨_, by simp; rfl⟩

theorem handOver_states (net net' : Net) (src dst : Nat) (moved : List KEntry)
    (h : C05.handOver net src dst moved = some net') (n : Nat) : stateOf net' n = stateOf net n :=
  C05.handOver_map (·.state) (fun _ _ => rfl) net net' src dst moved h n

theorem transferDown_states (net net' : Net) (l succ : Nat) (store : List KEntry)
    (h : transferDown net l succ store = some net') : ∀ n, stateOf net' n = stateOf net n :=
  handOver_states net net' l succ _ h

theorem executeLeave_failure_invisible (net net' : Net) (l : Nat) (e : Err)
    (h : executeLeave net l = (net', .error e)) : ∀ n, net'.get n = net.get n := by
  intro n
  revert h
  fun_cases executeLeave net l with
  | case1 =>  -- unknown leaver
    rintro ⟨⟩
    rfl
  | case2 =>  -- no predecessor
    rintro ⟨⟩
    rfl
  | case3 =>  -- no successor
    rintro ⟨⟩
    rfl
  | case4 => rintro ⟨⟩  -- alone on the ring: nothing to do
  | case5 nd hg pre hp succ hs hne n1 e' hl =>  -- a lock was refused
    rintro ⟨⟩
    exact leaveLocks_fail net _ l _ _ hl n
  | case6 nd hg pre hp succ hs hne n1 hl =>
    -- the transfer failed: the leaver back to Active, then the successor's lock released
    rintro ⟨⟩
    obtain ⟨hls, hact, nds, hgs, hups, hsa, hget⟩ := leaveLocks_ok net n1 l succ hl
    have hg1s : (n1.upd l fun nd => { nd with state := .active }).get succ =
        some { nds with state := .transferring } := by
      rw [get_upd_other _ _ _ _ (Ne.symm hls), hget, if_neg (Ne.symm hls), if_pos rfl]
    rw [finish_release _ succ _ hg1s hups, get_upd]
    by_cases hn : n = succ
    · subst hn
      rw [if_pos rfl, hg1s, hgs]
      exact congrArg some (set_state_eq nds .active hsa)
    · rw [if_neg hn, get_upd]
      by_cases hnl : n = l
      · subst hnl
        rw [if_pos rfl, hget, if_pos rfl]
        cases hgl : net.get n with
        | none => rfl
        | some x => exact congrArg some (set_state_eq x .active (state_of_stateOf hgl hact))
      · rw [if_neg hnl, hget, if_neg hnl, if_neg hn]
  | case7 => rintro ⟨⟩  -- success

/-- **C06 (leave).** Whatever goes wrong in a leave attempt — nil predecessor, no successor, a busy
successor, a busy leaver, either lock order, a failed key transfer — every node of the ring ends in
the lifecycle state it had before the attempt: all locks taken on the way are released. -/
theorem executeLeave_failure_restores (net net' : Net) (l : Nat) (e : Err)
    (h : executeLeave net l = (net', .error e)) : ∀ n, stateOf net' n = stateOf net n :=
  fun n => congrArg (Option.map Node.state) (executeLeave_failure_invisible net net' l e h n)

theorem join_failure_invisible (net net' : Net) (j peer : Nat) (e : Err)
    (h : joinBegin net j peer = (net', some e)) : ∀ n, net'.get n = net.get n := by
  intro n
  revert h
  fun_cases joinBegin net j peer with
  | case1 =>  -- unknown joiner
    rintro ⟨⟩
    rfl
  | case2 =>  -- the joiner is not Inactive
    rintro ⟨⟩
    rfl
  | case3 nd hg hin net1 n1 e' hr =>
    -- the request was refused: it changed nothing, and the joiner is Inactive again
    have hkeep := refusal_changes_nothing _ FUEL peer j e' (by rw [hr]; rfl)
    rw [hr] at hkeep
    obtain rfl : n1 = _ := hkeep
    rintro ⟨⟩
    refine get_upd_upd net j _ _ (fun nd' hg' => ?_) n
    rw [hg] at hg'
    cases hg'
    exact set_state_eq nd .inactive (bne_eq_false_iff_eq.mp (Bool.eq_false_iff.mpr hin))
  | case4 => rintro ⟨⟩  -- the request was accepted

/-- **C06 (join).** A failed join attempt leaves every node in the lifecycle state it had before
(the joiner is Inactive again; no node stays locked). -/
theorem join_failure_restores (net net' : Net) (j peer : Nat) (e : Err)
    (h : joinBegin net j peer = (net', some e)) : ∀ n, stateOf net' n = stateOf net n :=
  fun n => congrArg (Option.map Node.state) (join_failure_invisible net net' j peer e h n)

/-- non-vacuity: a busy (Transferring) successor makes the leave of node 100 fail with a retryable
error and every node keeps its state. -/
def busyNet : Net :=
  [(100, { state := .active, pred := some 200, succs := [200, 100], fingers := List.replicate 48 (some 200) }),
   (200, { state := .transferring, pred := some 100, succs := [100, 200], fingers := List.replicate 48 (some 100) })]

example : errOf (executeLeave busyNet 100).2 = some .leaveInvalidState := by decide +kernel
example : stateOf (executeLeave busyNet 100).1 100 = some .active ∧ stateOf (executeLeave busyNet 100).1 200 = some .transferring := by
  decide +kernel

end Specter.C06
