import SpecterModel.C01.Props
import SpecterModel.C05.Props
/-!
# C03 — Acknowledged KV data survives graceful joins and leaves

Two halves.

**Routing (this file, `kv_at_owner`).** On a stable, quiescent ring every routed KV operation, issued
through ANY member, is executed on the store of the key's owner and nowhere else: the net changes
exactly by `kvLocal` applied to the owner's store. Hence all members see one sequential store per key:
a read returns the latest acknowledged write whatever the entry nodes were.

**Hand-off (C05 file).** `transferUp` / `transferDown` move exactly the keys of the range that changes
owner (`transferUp_source`, `transferUp_target`, `transferDown_source_empty`), so the owner of a key
after a join or leave is the node that holds its data.

The churn harness runs real nodes through random interleavings of KV operations, joins and leaves and
checks every acknowledged read against a ghost sequential store (driver `Churn.ghostStep`).
-/
namespace Specter.C03
open Specter.Ring Specter.C01 Specter.C09

/-- all live members serve requests and no hand-off is pending: state Active, not crashed, and the
surrogate pointer is nil or equals the predecessor (what a completed join leaves behind) -/
structure Quiescent (net : Net) : Prop where
  active : ∀ n nd, net.get n = some nd → checkNodeState nd false = none → nd.state = .active ∧ nd.crashed = false
  surrogate : ∀ n nd, net.get n = some nd → checkNodeState nd false = none →
      nd.surrogate = none ∨ (nd.surrogate = nd.pred ∧ nd.pred ≠ some n)

theorem found_unique (net : Net) (n key : Nat) (f f' a b : Nat)
    (h : findSucc net f n key = .found a) (h' : findSucc net f' n key = .found b) : a = b := by
  have e := findSucc_fuel_le net f (max f f') n key _ h (by simp) (Nat.le_max_left _ _)
  rw [findSucc_fuel_le net f' (max f f') n key _ h' (by simp) (Nat.le_max_right _ _)] at e
  injection e with e; exact e.symm

theorem owner_in_pred_range (net : Net) (hs : Stable net) (key o p : Nat) (hk : key < M)
    (ho : IsOwner net key o) (nd : Node) (hg : net.get o = some nd) (hc : checkNodeState nd false = none)
    (hp : nd.pred = some p) : between p key o true = true :=
  have hpm := (hs.pred_first hg hc hp).1
  between_closed_of_dist_le p key o (hs.lt p hpm) hk (hs.lt o ho.1) (ho.2 p hpm)

theorem owner_of_pred_range (net : Net) (hs : Stable net) (h o p : Nat) (hh : h < M) (nd : Node)
    (hg : net.get o = some nd) (hc : checkNodeState nd false = none) (hp : nd.pred = some p)
    (hb : between p h o true = true) : IsOwner net h o := by
  have ho : Mem net o := ⟨nd, hg, hc⟩
  obtain ⟨hpm, hfirst⟩ := hs.pred_first hg hc hp
  exact ⟨ho, fun m hm => dist_le_of_cw_le p o h m (hs.lt p hpm) (hs.lt o ho) hh (hs.lt m hm)
    ((between_closed_iff_cw p h o (hs.lt p hpm) hh (hs.lt o ho)).mp hb) (hfirst m hm)⟩

/-- the surrogate of a quiescent owner never captures a key of its own range -/
theorem surrogate_skips (net : Net) (hs : Stable net) (key o p : Nat) (hk : key < M)
    (ho : IsOwner net key o) (nd : Node) (hg : net.get o = some nd) (hc : checkNodeState nd false = none)
    (hp : nd.pred = some p) (hne : p ≠ o) : between o key p true = false :=
  between_closed_disjoint p key o (hs.lt p (hs.pred_first hg hc hp).1) hk (hs.lt o ho.1) hne
    (owner_in_pred_range net hs key o p hk ho nd hg hc hp)

theorem kvAt_local (net : Net) (hs : Stable net) (hq : Quiescent net) (o : Nat) (k : String) (h : Nat) (op : KvOp)
    (hk : h < M) (ho : IsOwner net h o) (fuel : Nat)
    (hfo : findSucc net FUEL o h = .found o) (nd : Node) (hg : net.get o = some nd) (hc : checkNodeState nd false = none) :
    kvAt net (fuel+1) o k h op =
      (net.upd o (fun nd' => { nd' with store := (kvLocal nd.store k h op).1 }), (kvLocal nd.store k h op).2) := by
  obtain ⟨hact, hup⟩ := hq.active o nd hg hc
  obtain ⟨p, hp, _, _⟩ := hs.pred o nd hg hc
  have hin := owner_in_pred_range net hs h o p hk ho nd hg hc hp
  unfold kvAt
  simp only [hg, hup, hfo, bne_self_eq_false, hact]
  rcases hq.surrogate o nd hg hc with hsn | ⟨hsp, hne⟩
  · simp [hsn, hp, hin]
  · rw [hp] at hsp hne
    have hpo : p ≠ o := fun e => hne (by rw [e])
    have := surrogate_skips net hs h o p hk ho nd hg hc hp hpo
    simp [hsp, this, hp, hin]

/-- lookups of the model complete within its fuel constant (an executable side condition: rings of
fewer than `FUEL` hops; the harness rings are far below) -/
def LookupsComplete (net : Net) (key : Nat) : Prop :=
  ∀ m, Mem net m → ∃ o, findSucc net FUEL m key = .found o

theorem lookup_found_owner (net : Net) (hs : Stable net) (n key fuel o : Nat) (hn : Mem net n) (hk : key < M)
    (h : findSucc net fuel n key = .found o) : IsOwner net key o := by
  obtain ⟨f', o', hres, ho⟩ := lookup_correct net hs n key hn hk
  rw [found_unique net n key fuel f' o o' h hres]; exact ho

theorem lookup_FUEL_owner (net : Net) (hs : Stable net) (key : Nat) (hk : key < M)
    (hF : LookupsComplete net key) (m : Nat) (hm : Mem net m) :
    ∃ o, findSucc net FUEL m key = .found o ∧ IsOwner net key o := by
  obtain ⟨o, ho⟩ := hF m hm
  exact ⟨o, ho, lookup_found_owner net hs m key FUEL o hm hk ho⟩

/-- **C03 (routing).** On a stable quiescent ring, a KV operation issued through ANY member is
executed exactly once, on the store of the key's owner; no other node's store, pointer or state
changes. All entry nodes therefore observe the same per-key sequential store. -/
theorem kv_at_owner (net : Net) (hs : Stable net) (hq : Quiescent net) (n : Nat) (k : String) (h : Nat)
    (op : KvOp) (hk : h < M) (hn : Mem net n) (hF : LookupsComplete net h) (fuel : Nat) :
    ∃ o ndo, IsOwner net h o ∧ net.get o = some ndo ∧
      kvAt net (fuel+2) n k h op =
        (net.upd o (fun nd' => { nd' with store := (kvLocal ndo.store k h op).1 }), (kvLocal ndo.store k h op).2) := by
  obtain ⟨o, hfo, ho⟩ := lookup_FUEL_owner net hs h hk hF n hn
  obtain ⟨ndo, hgo, hco⟩ := ho.1
  obtain ⟨o2, hfo2, ho2⟩ := lookup_FUEL_owner net hs h hk hF o ho.1
  have : o2 = o := owner_unique net hs.lt h o2 o hk ho2 ho
  subst this
  refine ⟨o2, ndo, ho, hgo, ?_⟩
  by_cases hon : o2 = n
  · subst hon
    exact kvAt_local net hs hq o2 k h op hk ho (fuel+1) hfo2 ndo hgo hco
  · obtain ⟨ndn, hgn, hcn⟩ := hn
    obtain ⟨_, hupn⟩ := hq.active n ndn hgn hcn
    have step : kvAt net (fuel+2) n k h op = kvAt net (fuel+1) o2 k h op := by
      rw [kvAt]
      simp only [hgn, hupn, hfo]
      have : (o2 != n) = true := by simpa using hon
      simp [this]
    rw [step]
    exact kvAt_local net hs hq o2 k h op hk ho fuel hfo2 ndo hgo hco

/-- non-vacuity: the three-node ring of C01 is stable and quiescent; a put through node 0 for a key
hashing to 3 lands on node 5 (the owner) only. -/
example : (kvAt Specter.C01.ring3 3 0 "k" 3 (.put "v")).2 = .unit := by decide +kernel
example : ((kvAt Specter.C01.ring3 3 0 "k" 3 (.put "v")).1.get 5).map (·.store.map (·.key)) = some ["k"] := by decide +kernel
example : ((kvAt Specter.C01.ring3 3 0 "k" 3 (.put "v")).1.get 0).map (·.store.length) = some 0 := by decide +kernel

/-! ### executable forms of the hypotheses (non-vacuity, and usable by drivers) -/

def quiescentB (net : Net) : Bool :=
  net.all fun q =>
    if memB net q.1 then
      match net.get q.1 with
      | some nd => nd.state == .active && !nd.crashed &&
          (nd.surrogate.isNone || (nd.surrogate == nd.pred && nd.pred != some q.1))
      | none => false
    else true

theorem quiescent_of_quiescentB (net : Net) (h : quiescentB net = true) : Quiescent net := by
  unfold quiescentB at h
  rw [List.all_eq_true] at h
  have key : ∀ n nd, net.get n = some nd → checkNodeState nd false = none →
      nd.state = .active ∧ nd.crashed = false ∧ (nd.surrogate = none ∨ (nd.surrogate = nd.pred ∧ nd.pred ≠ some n)) := by
    intro n nd hg hc
    have := h _ (get_mem net n nd hg)
    have hmb : memB net n = true := (memB_iff net n).mpr ⟨nd, hg, hc⟩
    simp only [hmb, if_true, hg, Bool.and_eq_true, Bool.or_eq_true, beq_iff_eq, Bool.not_eq_true',
      Option.isNone_iff_eq_none, bne_iff_ne, ne_eq] at this
    exact ⟨this.1.1, this.1.2, this.2⟩
  exact ⟨fun n nd hg hc => ⟨(key n nd hg hc).1, (key n nd hg hc).2.1⟩, fun n nd hg hc => (key n nd hg hc).2.2⟩

def lookupsCompleteB (net : Net) (key : Nat) : Bool :=
  net.all fun q => !memB net q.1 || (match findSucc net FUEL q.1 key with | .found _ => true | .err _ => false)

theorem lookupsComplete_of_B (net : Net) (key : Nat) (h : lookupsCompleteB net key = true) :
    LookupsComplete net key := by
  intro m hm
  obtain ⟨nd, hg, hc⟩ := hm
  unfold lookupsCompleteB at h
  rw [List.all_eq_true] at h
  have := h _ (get_mem net m nd hg)
  have hmb : memB net m = true := (memB_iff net m).mpr ⟨nd, hg, hc⟩
  simp only [hmb, Bool.not_true, Bool.false_or] at this
  cases hf : findSucc net FUEL m key with
  | found o => exact ⟨o, rfl⟩
  | err e => simp [hf] at this

/-- the hypotheses of `kv_at_owner` hold for the three-node ring of C01 (wrap-around ids, a departed node
still present) and a key hashing to 3 -/
example : Stable Specter.C01.ring3 ∧ Quiescent Specter.C01.ring3 ∧ LookupsComplete Specter.C01.ring3 3 :=
  ⟨stable_of_stableB _ (by decide +kernel), quiescent_of_quiescentB _ (by decide +kernel), lookupsComplete_of_B _ _ (by decide +kernel)⟩

end Specter.C03
