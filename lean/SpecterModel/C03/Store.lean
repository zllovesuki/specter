import SpecterModel.Lists
import SpecterModel.C05.Props
/-!
# C03 / C05 — a store as clients see it: the value view, and the store functions on it

The store-level half of the refinement proof `C03/Refine.lean`, in its namespace: no ring, the hash function a
parameter. A key reads as `viewOf st k : Val` (simple value, children); a missing entry and a tombstone both read
`(none, [])`. What each store function of `C01/Model.lean` does to `kvFind` is in `C03/Find.lean`; here, what that
means for the view. `kvLocal` is then one `kvUpsert` of `entryStep`, or nothing on a conflict (`kvLocal_eq`): `valStep`
on the view.
-/
namespace Specter.C03.Refine
open Specter.Ring Specter.C05

theorem kvUpsert_nodup (st : List KEntry) (k : String) (h : Nat) (f : KEntry → KEntry)
    (hf : ∀ e, (f e).key = e.key) (hnd : (st.map (·.key)).Nodup) :
    ((kvUpsert st k h f).map (·.key)).Nodup := by
  rw [kvUpsert_eq]
  cases hk : kvFind st k with
  | none =>
    refine List.map_append ▸ nodup_snoc hnd fun m => ?_
    obtain ⟨e, he, hek⟩ := List.mem_map.mp m
    exact kvFind_none hk e he (hek.trans (hf _))
  | some e0 =>
    simp only [List.map_map]
    rw [List.map_congr_left (g := (·.key)) fun e _ => by simp only [Function.comp]; split <;> simp [hf]]
    exact hnd

theorem kvUpsert_all (P : KEntry → Prop) (st : List KEntry) (k : String) (h : Nat) (f : KEntry → KEntry)
    (hf : ∀ e, P e → P (f e)) (hb : P (f (blank k h))) (hst : ∀ e ∈ st, P e) : ∀ e ∈ kvUpsert st k h f, P e := by
  intro e he
  rcases mem_kvUpsert st k h f e he with h1 | ⟨e0, he0, rfl⟩ | rfl
  · exact hst e h1
  · exact hf e0 (hst e0 he0)
  · exact hb

/-- the value of a key as clients see it: its simple value and its (sorted) children; a key without entry
and a tombstone (entry with neither) both read as `(none, [])` -/
abbrev Val := Option String × List String

def viewOf (st : List KEntry) (k : String) : Val :=
  match kvFind st k with
  | some e => (e.simple, e.children)
  | none => (none, [])

def valOf (e : KEntry) : Val := (e.simple, e.children)

theorem viewOf_getD (st : List KEntry) (k : String) (h : Nat) :
    viewOf st k = valOf ((kvFind st k).getD (blank k h)) := by
  unfold viewOf valOf
  cases kvFind st k <;> rfl

theorem viewOf_eq (st : List KEntry) (k : String) : viewOf st k = valOf ((kvFind st k).getD (blank k 0)) :=
  viewOf_getD st k 0

theorem isDeleted_iff (e : KEntry) : e.isDeleted = true ↔ valOf e = (none, []) := by
  unfold KEntry.isDeleted valOf
  simp only [Bool.and_eq_true, Option.isNone_iff_eq_none, List.isEmpty_iff, Prod.mk.injEq]

theorem viewOf_kvUpsert_same (st : List KEntry) (k : String) (h : Nat) (f : KEntry → KEntry)
    (hf : ∀ e, (f e).key = e.key) :
    viewOf (kvUpsert st k h f) k = valOf (f ((kvFind st k).getD (blank k h))) := by
  unfold viewOf
  rw [kvFind_kvUpsert st k h f hf k]
  simp [valOf]

theorem viewOf_kvUpsert_other (st : List KEntry) (k : String) (h : Nat) (f : KEntry → KEntry)
    (hf : ∀ e, (f e).key = e.key) (k' : String) (hk : k' ≠ k) :
    viewOf (kvUpsert st k h f) k' = viewOf st k' := by
  unfold viewOf
  rw [kvFind_kvUpsert st k h f hf k']
  simp [hk]

/-- strictly increasing (hence duplicate-free) — the form in which the memory back-end keeps the children
of a key; `Import` re-inserts children one by one (`insertSorted`), which is the identity exactly on
such lists -/
def Canon (cs : List String) : Prop := cs.Pairwise (· < ·)

instance (cs : List String) : Decidable (Canon cs) := by unfold Canon; infer_instance

theorem insertSorted_canon (c : String) (l : List String) (h : Canon l) : Canon (insertSorted c l) := by
  -- `insertSorted c (x :: xs)` puts `c` in front (`c < x`), drops it (`c = x`) or goes on into `xs`
  fun_induction insertSorted c l with
  | case1 => exact List.pairwise_singleton _ _
  | case2 x xs hcx =>
    refine List.pairwise_cons.mpr ⟨fun y hy => ?_, h⟩
    rcases List.mem_cons.mp hy with rfl | hy
    · exact hcx
    · exact String.lt_trans hcx ((List.pairwise_cons.mp h).1 y hy)
  | case3 x xs hcx heq => exact h
  | case4 x xs hcx hne ih =>
    obtain ⟨hx, hxs⟩ := List.pairwise_cons.mp h
    refine List.pairwise_cons.mpr ⟨fun y hy => ?_, ih hxs⟩
    rcases (mem_insertSorted y c xs).mp hy with rfl | hy
    · exact Std.lt_of_le_of_ne (String.not_lt.mp hcx) (Ne.symm (by simpa using hne))
    · exact hx y hy

theorem insertSorted_last (c : String) (l : List String) (h : ∀ y ∈ l, y < c) : insertSorted c l = l ++ [c] := by
  fun_induction insertSorted c l with
  | case1 => rfl
  | case2 x xs hcx => exact absurd (h x List.mem_cons_self) (String.lt_asymm hcx)
  | case3 x xs hcx heq =>
    exact absurd (h x List.mem_cons_self) (by rw [← beq_iff_eq.mp heq]; exact String.lt_irrefl c)
  | case4 x xs hcx hne ih => rw [ih fun y hy => h y (List.mem_cons_of_mem _ hy)]; rfl

theorem foldl_insertSorted_canon_aux (cs acc : List String) (h : Canon (acc ++ cs)) :
    cs.foldl (fun a x => insertSorted x a) acc = acc ++ cs := by
  induction cs generalizing acc with
  | nil => simp
  | cons x xs ih =>
    have hacc : ∀ y ∈ acc, y < x := fun y hy => (List.pairwise_append.mp h).2.2 y hy x List.mem_cons_self
    rw [List.foldl_cons, insertSorted_last x acc hacc, ih (acc ++ [x]) (by simpa using h)]
    simp

theorem foldl_insertSorted_canon (cs : List String) (h : Canon cs) :
    cs.foldl (fun a x => insertSorted x a) [] = cs := by
  simpa using foldl_insertSorted_canon_aux cs [] (by simpa using h)

theorem foldl_insertSorted_keeps_canon (cs acc : List String) (h : Canon acc) :
    Canon (cs.foldl (fun a x => insertSorted x a) acc) :=
  List.foldlRecOn cs _ h fun a ha x _ => insertSorted_canon x a ha

theorem importedEntry_canon (e : KEntry) (h : Canon e.children) : importedEntry e = e := by
  unfold importedEntry
  rw [foldl_insertSorted_canon _ h]

/-- the clauses of `Placed` that speak of one store alone -/
structure StoreOk (H : String → Nat) (st : List KEntry) : Prop where
  hash : ∀ e ∈ st, e.hash = H e.key
  nodup : (st.map (·.key)).Nodup
  sorted : ∀ e ∈ st, Canon e.children

theorem StoreOk.nil (H : String → Nat) : StoreOk H [] :=
  ⟨fun _ h => (nomatch h), List.nodup_nil, fun _ h => (nomatch h)⟩

theorem StoreOk.filter {H : String → Nat} {st : List KEntry} (h : StoreOk H st) (p : KEntry → Bool) :
    StoreOk H (st.filter p) :=
  ⟨fun e he => h.hash e (List.mem_filter.mp he).1,
   filter_keys_nodup h.nodup p,
   fun e he => h.sorted e (List.mem_filter.mp he).1⟩

theorem StoreOk.kvUpsert {H : String → Nat} {st : List KEntry} (h : StoreOk H st) (k : String) (f : KEntry → KEntry)
    (hf : ∀ e, (f e).key = e.key ∧ (f e).hash = e.hash ∧ (Canon e.children → Canon (f e).children)) :
    StoreOk H (kvUpsert st k (H k) f) :=
  ⟨kvUpsert_all (fun e => e.hash = H e.key) st k (H k) f (fun e he => by rw [(hf e).2.1, (hf e).1]; exact he)
     (by rw [(hf _).2.1, (hf _).1]; rfl) h.hash,
   kvUpsert_nodup st k (H k) f (fun e => (hf e).1) h.nodup,
   kvUpsert_all (fun e => Canon e.children) st k (H k) f (fun e => (hf e).2.2)
     ((hf _).2.2 List.Pairwise.nil) h.sorted⟩

theorem viewOf_import_miss (es : List KEntry) (hnd : (es.map (·.key)).Nodup) (st : List KEntry) (k : String)
    (h : kvFind es k = none) : viewOf (importEntries st es) k = viewOf st k := by
  unfold viewOf; rw [kvFind_import es hnd k st, h]

theorem viewOf_import_blank (es : List KEntry) (hnd : (es.map (·.key)).Nodup) (hc : ∀ m ∈ es, Canon m.children)
    (dst : List KEntry) (k : String) (hdst : viewOf dst k = (none, [])) :
    viewOf (importEntries dst es) k = viewOf es k := by
  unfold viewOf at hdst ⊢
  rw [kvFind_import es hnd k dst]
  cases hm : kvFind es k with
  | none => exact hdst
  | some m =>
    have := foldl_insertSorted_canon _ (hc m (kvFind_some hm).1)
    cases hf : kvFind dst k with
    | none => simp [impF, blank, this]
    | some e => simp only [hf] at hdst; simp [impF, (Prod.mk.inj hdst).2, this]

theorem viewOf_import_nodata (es : List KEntry) (hnd : (es.map (·.key)).Nodup) (hd : ∀ m ∈ es, m.isDeleted = false)
    (dst : List KEntry) (k : String) (hes : viewOf es k = (none, [])) :
    viewOf (importEntries dst es) k = viewOf dst k := by
  apply viewOf_import_miss es hnd dst k
  cases hm : kvFind es k with
  | none => rfl
  | some m =>
    unfold viewOf at hes
    rw [hm] at hes
    have := hd m (kvFind_some hm).1
    rw [(isDeleted_iff m).mpr hes] at this
    cases this

theorem StoreOk.import {H : String → Nat} (es dst : List KEntry) (h : StoreOk H dst)
    (he : ∀ m ∈ es, m.hash = H m.key) : StoreOk H (importEntries dst es) :=
  List.foldlRecOn es _ h fun st hst x hx => by
    rw [he x hx]
    exact hst.kvUpsert x.key (impF x) fun e => ⟨rfl, rfl, foldl_insertSorted_keeps_canon _ _⟩

theorem viewOf_range_split {H : String → Nat} {st : List KEntry} (h : StoreOk H st) (lo hi : Nat) (k : String) :
    viewOf (rangeKeys st lo hi) k = (if between lo (H k) hi true = true then viewOf st k else (none, [])) ∧
    viewOf (removeKeys st (rangeKeys st lo hi)) k =
      (if between lo (H k) hi true = true then (none, []) else viewOf st k) := by
  unfold rangeKeys
  rw [removeKeys_filter st h.nodup]
  unfold viewOf
  rw [kvFind_filter st h.nodup, kvFind_filter st h.nodup]
  cases hf : kvFind st k with
  | none => simp [Option.filter]
  | some e =>
    obtain ⟨he, hk⟩ := kvFind_some hf
    have hh : e.hash = H k := by rw [h.hash e he, hk]
    cases hb : between lo (H k) hi true <;> cases hdel : e.isDeleted <;> simp [Option.filter, hh, hb, hdel]
    -- left: a tombstone in the range; it is not selected, so it stays, and reads as blank on both sides
    have := (isDeleted_iff e).mp hdel
    simp only [valOf, Prod.mk.injEq] at this
    simp [this]

/-- the sequential specification of one key -/
def valStep (v : Val) : KvOp → Val × KvOut
  | .put x => ((some x, v.2), .unit)
  | .get => (v, .value v.1)
  | .delete => ((none, v.2), .unit)
  | .pAppend c => if v.2.contains c then (v, .err .kvPrefixConflict) else ((v.1, insertSorted c v.2), .unit)
  | .pRemove c => ((v.1, v.2.filter (· != c)), .unit)
  | .pContains c => (v, .bool (v.2.contains c))
  | .pList => (v, .list v.2)

def entryStep : KvOp → KEntry → KEntry
  | .put v, e => { e with simple := some v }
  | .delete, e => { e with simple := none }
  | .pAppend c, e => { e with children := insertSorted c e.children }
  | .pRemove c, e => { e with children := e.children.filter (· != c) }
  | _, e => e

theorem entryStep_frame (op : KvOp) (e : KEntry) :
    (entryStep op e).key = e.key ∧ (entryStep op e).hash = e.hash ∧
    (Canon e.children → Canon (entryStep op e).children) := by
  refine ⟨by cases op <;> rfl, by cases op <;> rfl, fun hc => ?_⟩
  cases op with
  | pAppend c => exact insertSorted_canon c _ hc
  | pRemove c => exact List.Pairwise.filter _ hc
  | _ => exact hc

theorem valStep_fst (e : KEntry) (op : KvOp) :
    (valStep (valOf e) op).1 =
      if (valStep (valOf e) op).2 = .err .kvPrefixConflict then valOf e else valOf (entryStep op e) := by
  cases op with
  | pAppend c =>
    by_cases hc : e.children.contains c = true
    · simp only [valStep, valOf, hc, if_true]
    · simp only [valStep, valOf, hc]; rfl
  | _ => rfl

theorem kvLocal_eq (st : List KEntry) (k : String) (h : Nat) (op : KvOp) :
    kvLocal st k h op =
      (if (valStep (viewOf st k) op).2 = .err .kvPrefixConflict then st else kvUpsert st k h (entryStep op),
       (valStep (viewOf st k) op).2) := by
  unfold viewOf
  -- the clauses of `kvLocal` in order: `put`, `get`, `delete`, `pAppend` (conflict, insertion, missing key),
  -- `pRemove`, `pContains`, `pList`
  fun_cases kvLocal st k h op
  case case1 => rfl
  case case2 => cases kvFind st k <;> rfl
  case case3 => rfl
  case case4 c e he hc => rw [he]; simp only [valStep, hc, if_true]
  case case5 c e he hc => rw [he]; simp only [valStep, hc]; rfl
  case case6 c he =>
    -- on a missing key the model writes the children `[c]`, `entryStep` inserts `c` into `[]`: the same new entry
    rw [he, kvUpsert_of_none _ _ _ _ he, kvUpsert_of_none _ _ _ _ he]; rfl
  case case7 => rfl
  case case8 => cases kvFind st k <;> rfl
  case case9 => cases kvFind st k <;> rfl

theorem kvLocal_out (st : List KEntry) (k : String) (h : Nat) (op : KvOp) :
    (kvLocal st k h op).2 = (valStep (viewOf st k) op).2 := by
  rw [kvLocal_eq]

theorem kvLocal_view_same (st : List KEntry) (k : String) (h : Nat) (op : KvOp) :
    viewOf (kvLocal st k h op).1 k = (valStep (viewOf st k) op).1 := by
  rw [kvLocal_eq, viewOf_getD st k h, valStep_fst]
  simp only
  split
  · exact viewOf_getD st k h
  · exact viewOf_kvUpsert_same st k h _ (fun e => (entryStep_frame op e).1)

theorem kvLocal_view_other (st : List KEntry) (k : String) (h : Nat) (op : KvOp) (k' : String) (hk : k' ≠ k) :
    viewOf (kvLocal st k h op).1 k' = viewOf st k' := by
  rw [kvLocal_eq]
  simp only
  split
  · rfl
  · exact viewOf_kvUpsert_other st k h _ (fun e => (entryStep_frame op e).1) k' hk

theorem StoreOk.kvLocal {H : String → Nat} {st : List KEntry} (h : StoreOk H st) (k : String) (op : KvOp) :
    StoreOk H (kvLocal st k (H k) op).1 := by
  rw [kvLocal_eq]
  simp only
  split
  · exact h
  · exact h.kvUpsert k _ (entryStep_frame op)

end Specter.C03.Refine
