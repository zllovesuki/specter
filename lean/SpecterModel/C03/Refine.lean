import SpecterModel.C02.Join
import SpecterModel.C02.Leave
import SpecterModel.C03.Props
import SpecterModel.C03.Store
import SpecterModel.C07.Props
/-!
# C03 / C05 — the ring REFINES one sequential per-key store (sequential histories)

End-to-end theorem of C03 ("every acknowledged write stays in effect after any sequence of graceful joins
and leaves: reads from any node return the latest acknowledged value, no deleted data reappears") and C05
("every stored key lives only on its responsible node") for SEQUENTIAL histories — one complete
operation after the other; interleavings and failures are the validated part (C04, churn harness).

The abstraction `absGet H net k` is the view (`C03/Store.lean`) of `k` in the store of the owner of `H k`; the
invariant is `Inv = Stable ∧ Quiescent ∧ Placed`, with `Placed` (C05) read through the value view (`placed_iff`).
`kv_refines`, `join_keeps_abs`, `leave_repair_keeps_abs`: one step of each kind keeps `Inv` and acts on the abstract
values as the sequential specification does (the two membership changes through `handOver_keeps_abs`);
`history_refines` chains them along a history (`Exec`).
`leave_keeps_abs` rests on a hypothesis that fails in practice (`hno_fails` in `C03/RefineDemo.lean`, which also runs a
whole history on the ring `dataRing` defined here).
-/
namespace Specter.C03.Refine
open Specter.Ring Specter.C01 Specter.C03 Specter.C05 Specter.C09 Specter.C02

/-- **The abstraction function**: the value of key `k` in the ring = what the store of the owner of
`H k` holds for `k` (`H` = the hash function, a parameter: xxh3 is outside the model). Executable. -/
def absGet (H : String → Nat) (net : Net) (k : String) : Val :=
  match ownerOf net (H k) with
  | some o =>
    match net.get o with
    | some nd => viewOf nd.store k
    | none => (none, [])
  | none => (none, [])

theorem absGet_eq (H : String → Nat) (hH : ∀ k, H k < M) (net : Net) (hlt : ∀ n, Mem net n → n < M)
    (k : String) (o : Nat) (nd : Node) (ho : IsOwner net (H k) o) (hg : net.get o = some nd) :
    absGet H net k = viewOf nd.store k := by
  unfold absGet
  rw [ownerOf_eq net hlt (H k) o (hH k) ho]
  simp only [hg]

/-- **C05, the placement invariant**, over the live members: stores are well formed, and every entry that
holds data is on the owner of its hash. Tombstones (`isDeleted`) are exempt because the model (as the memory
back-end) leaves them behind: `rangeKeys` skips them, so a hand-off does not move them — they read as "no
value" wherever they are. -/
structure Placed (H : String → Nat) (net : Net) : Prop where
  hash : ∀ n nd, net.get n = some nd → checkNodeState nd false = none → ∀ e ∈ nd.store, e.hash = H e.key
  nodup : ∀ n nd, net.get n = some nd → checkNodeState nd false = none → (nd.store.map (·.key)).Nodup
  sorted : ∀ n nd, net.get n = some nd → checkNodeState nd false = none → ∀ e ∈ nd.store, Canon e.children
  owned : ∀ n nd, net.get n = some nd → checkNodeState nd false = none →
      ∀ e ∈ nd.store, e.isDeleted = false → IsOwner net e.hash n

/-- **C05 as stated**: every stored key lives only on its responsible node — a key that holds data on a
live member `n` has `n` as owner of its hash, and no other live member holds data under that key. -/
theorem placed_single_holder (H : String → Nat) (hH : ∀ k, H k < M) (net : Net) (hs : Stable net)
    (hp : Placed H net) (n n' : Nat) (nd nd' : Node)
    (hg : net.get n = some nd) (hc : checkNodeState nd false = none)
    (hg' : net.get n' = some nd') (hc' : checkNodeState nd' false = none)
    (e e' : KEntry) (he : e ∈ nd.store) (he' : e' ∈ nd'.store) (hd : e.isDeleted = false)
    (hd' : e'.isDeleted = false) (hk : e.key = e'.key) : n = n' ∧ e = e' := by
  have h1 := hp.owned n nd hg hc e he hd
  have h2 := hp.owned n' nd' hg' hc' e' he' hd'
  rw [hp.hash n nd hg hc e he] at h1
  rw [hp.hash n' nd' hg' hc' e' he', ← hk] at h2
  have : n = n' := owner_unique net hs.lt (H e.key) n n' (hH _) h1 h2
  subst this
  rw [hg] at hg'; injection hg' with hg'; subst hg'
  exact ⟨rfl, eq_of_key_eq nd.store (hp.nodup n nd hg hc) e e' he he' hk⟩

theorem placed_iff (H : String → Nat) (net : Net) :
    Placed H net ↔ ∀ n nd, net.get n = some nd → checkNodeState nd false = none →
      StoreOk H nd.store ∧ ∀ k, viewOf nd.store k ≠ (none, []) → IsOwner net (H k) n := by
  constructor
  · intro hp n nd hg hc
    refine ⟨⟨hp.hash n nd hg hc, hp.nodup n nd hg hc, hp.sorted n nd hg hc⟩, fun k hv => ?_⟩
    unfold viewOf at hv
    cases hf : kvFind nd.store k with
    | none => rw [hf] at hv; exact absurd rfl hv
    | some e =>
      obtain ⟨he, hk⟩ := kvFind_some hf
      rw [hf] at hv
      have hd : e.isDeleted = false := by
        cases hd : e.isDeleted with
        | false => rfl
        | true => exact absurd ((isDeleted_iff e).mp hd) hv
      rw [← hk, ← hp.hash n nd hg hc e he]
      exact hp.owned n nd hg hc e he hd
  · intro h
    refine ⟨fun n nd hg hc => (h n nd hg hc).1.hash, fun n nd hg hc => (h n nd hg hc).1.nodup,
      fun n nd hg hc => (h n nd hg hc).1.sorted, fun n nd hg hc e he hd => ?_⟩
    obtain ⟨hS, hown⟩ := h n nd hg hc
    rw [hS.hash e he]
    apply hown
    unfold viewOf
    rw [kvFind_of_mem nd.store hS.nodup e he]
    intro hv
    rw [(isDeleted_iff e).mpr hv] at hd
    cases hd

theorem non_owner_view (H : String → Nat) (hH : ∀ k, H k < M) (net : Net) (hs : Stable net) (hp : Placed H net)
    (n : Nat) (nd : Node) (hg : net.get n = some nd) (hc : checkNodeState nd false = none)
    (k : String) (o : Nat) (ho : IsOwner net (H k) o) (hne : o ≠ n) : viewOf nd.store k = (none, []) :=
  Classical.byContradiction fun hv =>
    hne (owner_unique net hs.lt (H k) o n (hH k) ho (((placed_iff H net).mp hp n nd hg hc).2 k hv))

structure Inv (H : String → Nat) (net : Net) : Prop where
  stable : Stable net
  quiescent : Quiescent net
  placed : Placed H net

/-- `b` differs from `a` at most in stores (`strip`, C02/Join.lean, forgets the store of a node) -/
def StoresOnly (a b : Net) : Prop := ∀ m, (b.get m).map strip = (a.get m).map strip

theorem StoresOnly.symm {a b : Net} (h : StoresOnly a b) : StoresOnly b a := fun m => (h m).symm

theorem pview_strip (x : Node) : Specter.C02.Leave.pview (strip x) = Specter.C02.Leave.pview x := rfl

theorem StoresOnly.view {a b : Net} (h : StoresOnly a b) (m : Nat) :
    (b.get m).map ptrView = (a.get m).map ptrView := by
  -- `ptrView` does not read the store: `ptrView ∘ strip` is `ptrView`
  have := congrArg (Option.map ptrView) (h m)
  rw [Option.map_map, Option.map_map] at this
  exact this

theorem StoresOnly.mem {a b : Net} (h : StoresOnly a b) (m : Nat) : Mem b m ↔ Mem a m :=
  mem_of_view a b h.view m

theorem live_of_strip {x y : Node} (h : strip x = strip y) (hc : checkNodeState x false = none) :
    checkNodeState y false = none :=
  checkNodeState_congr (congrArg Node.state h) (congrArg Node.crashed h) false ▸ hc

theorem StoresOnly.stable {a b : Net} (h : StoresOnly a b) (hs : Stable a) : Stable b := by
  refine stable_of_view a b h.view (fun m x hx hcx f hf => ?_) hs
  obtain ⟨y, hy, e⟩ := view_some strip a b h m x hx
  have ef : x.fingers = y.fingers := (congrArg Node.fingers e :)
  exact hs.fingers m y hy (live_of_strip e hcx) f (ef ▸ hf)

theorem StoresOnly.quiescent {a b : Net} (h : StoresOnly a b) (hq : Quiescent a) : Quiescent b := by
  constructor
  · intro m x hx hcx
    obtain ⟨y, hy, e⟩ := view_some strip a b h m x hx
    have e1 : x.state = y.state := (congrArg Node.state e :)
    have e2 : x.crashed = y.crashed := (congrArg Node.crashed e :)
    rw [e1, e2]; exact hq.active m y hy (live_of_strip e hcx)
  · intro m x hx hcx
    obtain ⟨y, hy, e⟩ := view_some strip a b h m x hx
    have e1 : x.surrogate = y.surrogate := (congrArg Node.surrogate e :)
    have e2 : x.pred = y.pred := (congrArg Node.pred e :)
    rw [e1, e2]; exact hq.surrogate m y hy (live_of_strip e hcx)

theorem storesOnly_upd (net : Net) (o : Nat) (st : List KEntry) :
    StoresOnly net (net.upd o (fun nd' => { nd' with store := st })) :=
  fun m => upd_strip net o m _ (fun _ => rfl)

/-- at most `b` members: `ms` lists them, possibly with repetitions and non-members -/
def Sized (net : Net) (b : Nat) : Prop := ∃ ms : List Nat, ms.length ≤ b ∧ ∀ m, Mem net m → m ∈ ms

theorem countP_lt_of_witness (l : List Nat) (p q : Nat → Bool) (hpq : ∀ x, p x = true → q x = true)
    (x : Nat) (hx : x ∈ l) (hq : q x = true) (hp : p x = false) : l.countP p < l.countP q := by
  -- `q` counts what `p` counts, and `x` besides
  have h1 : (l.filter p).countP q = l.countP p := by
    rw [List.countP_filter]
    exact List.countP_congr fun y _ => by
      rw [Bool.and_eq_true]
      exact ⟨And.right, fun h => ⟨hpq y h, h⟩⟩
  have h2 : 0 < (l.filter fun a => !p a).countP q :=
    List.countP_pos_iff.mpr ⟨x, List.mem_filter.mpr ⟨hx, by simp [hp]⟩, hq⟩
  rw [List.countP_eq_countP_filter_add l q p, h1]
  omega

theorem lookup_within (net : Net) (hs : Stable net) (ms : List Nat) (hms : ∀ m, Mem net m → m ∈ ms)
    (key : Nat) (hk : key < M) (f n : Nat) (hn : Mem net n)
    (hcnt : ms.countP (fun m => decide (cw key m < cw key n)) < f) : ∃ o, findSucc net f n key = .found o := by
  -- the clauses of `findSucc` in order: out of fuel, `n` absent, `n` not live, key in the predecessor range,
  -- no successor, key in the successor range, forwarding
  fun_induction findSucc net f n key with
  | case1 => omega
  | case2 _ n _ hg => obtain ⟨nd, hg', _⟩ := hn; rw [hg] at hg'; cases hg'
  | case3 _ n _ nd hg e hc => rw [live_of_mem hn hg] at hc; cases hc
  | case4 => exact ⟨_, rfl⟩
  | case5 _ n _ nd hg hc _ hsu =>
    obtain ⟨s, hsu', _⟩ := hs.succ n nd hg hc
    rw [hsu] at hsu'; cases hsu'
  | case6 => exact ⟨_, rfl⟩
  | case7 f n key nd hg hc _ s hsu hb ih =>
    -- forwarded to a member strictly closer to the key: one member less is left to visit
    have hfM : ∀ g, some g ∈ nd.fingers → g < M := fun g hg' => hs.lt g (hs.fingers n nd hg hc g hg')
    have hsm := (hs.succ_first hg hc hsu).1
    obtain ⟨_, hlt⟩ := hop_decreases n key s nd.fingers (hs.lt n hn) hk (hs.lt s hsm) hfM (by simpa using hb)
    have hcm : Mem net (hop n key s nd.fingers) := hop_mem n key s nd.fingers hsm (hs.fingers n nd hg hc)
    have hdec := countP_lt_of_witness ms
      (fun m => decide (cw key m < cw key (hop n key s nd.fingers)))
      (fun m => decide (cw key m < cw key n))
      (fun x hx => by simp only [decide_eq_true_eq] at hx ⊢; omega)
      (hop n key s nd.fingers) (hms _ hcm) (by simpa using hlt) (by simp)
    exact ih hk hcm (by omega)

/-- **Fuel.** On a stable ring with fewer than `FUEL` (= 256) members every lookup of the model completes:
each forwarding hop lands on a member strictly closer to the key, so a lookup visits every member at
most once. This discharges the side condition `LookupsComplete` of `kv_at_owner` / `join_succeeds`. -/
theorem lookupsComplete_of_sized (net : Net) (hs : Stable net) (b : Nat) (hsz : Sized net b) (hb : b < FUEL)
    (key : Nat) (hk : key < M) : LookupsComplete net key := by
  obtain ⟨ms, hlen, hms⟩ := hsz
  intro m hm
  apply lookup_within net hs ms hms key hk FUEL m hm
  have := List.countP_le_length (p := fun m' => decide (cw key m' < cw key m)) (l := ms)
  omega

theorem Sized.congr {a b : Net} {n : Nat} (h : Sized a n) (hm : ∀ m, Mem b m → Mem a m) : Sized b n := by
  obtain ⟨ms, h1, h2⟩ := h
  exact ⟨ms, h1, fun m hm' => h2 m (hm m hm')⟩

theorem Sized.succ {a b : Net} {n j : Nat} (h : Sized a n) (hm : ∀ m, Mem b m → Mem a m ∨ m = j) : Sized b (n+1) := by
  obtain ⟨ms, h1, h2⟩ := h
  refine ⟨j :: ms, by simp; omega, fun m hm' => ?_⟩
  rcases hm m hm' with h3 | h3
  · exact List.mem_cons_of_mem _ (h2 m h3)
  · rw [h3]; exact List.mem_cons_self

/-- **Refinement of a KV step.** On a ring satisfying `Inv` with fewer than `FUEL` members, a KV operation
on `k` presenting `H k`, issued through ANY member, answers and changes the abstract value of `k` as `valStep`
says, changes no other abstract value, and keeps `Inv` and the members. -/
theorem kv_refines (H : String → Nat) (hH : ∀ k, H k < M) (net : Net) (hinv : Inv H net)
    (b : Nat) (hsz : Sized net b) (hb : b < FUEL) (n : Nat) (hn : Mem net n) (k : String) (op : KvOp) (fuel : Nat) :
    (kvAt net (fuel+2) n k (H k) op).2 = (valStep (absGet H net k) op).2 ∧
    Inv H (kvAt net (fuel+2) n k (H k) op).1 ∧
    (∀ m, Mem (kvAt net (fuel+2) n k (H k) op).1 m ↔ Mem net m) ∧
    absGet H (kvAt net (fuel+2) n k (H k) op).1 k = (valStep (absGet H net k) op).1 ∧
    ∀ k', k' ≠ k → absGet H (kvAt net (fuel+2) n k (H k) op).1 k' = absGet H net k' := by
  obtain ⟨hs, hq, hp⟩ := hinv
  have hF := lookupsComplete_of_sized net hs b hsz hb (H k) (hH k)
  obtain ⟨o, ndo, ho, hgo, hkv⟩ := kv_at_owner net hs hq n k (H k) op (hH k) hn hF fuel
  rw [hkv]
  simp only
  have hco := live_of_mem ho.1 hgo
  have hso := storesOnly_upd net o (kvLocal ndo.store k (H k) op).1
  have hs' := hso.stable hs
  have hown := isOwner_congr hso.mem
  have hgo' : (net.upd o (fun nd' => { nd' with store := (kvLocal ndo.store k (H k) op).1 })).get o =
      some { ndo with store := (kvLocal ndo.store k (H k) op).1 } := by rw [get_upd_same, hgo]; rfl
  have abs0 : absGet H net k = viewOf ndo.store k := absGet_eq H hH net hs.lt k o ndo ho hgo
  refine ⟨?_, ⟨hs', hso.quiescent hq, (placed_iff H _).mpr ?_⟩, hso.mem, ?_, ?_⟩
  · rw [abs0]; exact kvLocal_out ndo.store k (H k) op
  · intro n1 nd1 h1 hc1
    by_cases e : n1 = o
    · subst e; rw [hgo'] at h1; injection h1 with h1; subst h1
      obtain ⟨hS, hold⟩ := (placed_iff H net).mp hp n1 ndo hgo hco
      refine ⟨hS.kvLocal k op, fun k' hv => (hown _ _).mpr ?_⟩
      by_cases ek : k' = k
      · rw [ek]; exact ho
      · exact hold k' (kvLocal_view_other ndo.store k (H k) op k' ek ▸ hv)
    · rw [get_upd_other _ _ _ _ e] at h1
      obtain ⟨hS, hold⟩ := (placed_iff H net).mp hp n1 nd1 h1 hc1
      exact ⟨hS, fun k' hv => (hown _ _).mpr (hold k' hv)⟩
  · rw [absGet_eq H hH _ hs'.lt k o _ ((hown _ _).mpr ho) hgo', abs0]
    exact kvLocal_view_same ndo.store k (H k) op
  · intro k' hk'
    obtain ⟨o1, nd1, ho1, hg1, _⟩ := owner_exists net hs n hn (H k') (hH k')
    rw [absGet_eq H hH net hs.lt k' o1 nd1 ho1 hg1]
    by_cases e : o1 = o
    · subst e
      rw [hgo] at hg1; injection hg1 with hg1; subst hg1
      rw [absGet_eq H hH _ hs'.lt k' o1 _ ((hown _ _).mpr ho1) hgo']
      exact kvLocal_view_other ndo.store k (H k) op k' hk'
    · exact absGet_eq H hH _ hs'.lt k' o1 nd1 ((hown _ _).mpr ho1) (by rw [get_upd_other _ _ _ _ e]; exact hg1)

section
open Specter.C07

theorem join_stores (net : Net) (hs : Stable net) (hq : Quiescent net) (j peer : Nat) (hj : j < M)
    (ndj : Node) (hgj : net.get j = some ndj) (net' : Net) (h : join net j peer = (net', none)) :
    ∃ s prev nds, Ctx net j s prev ∧ net.get s = some nds ∧
      (∀ m, m ≠ s → m ≠ j → storeOf net' m = storeOf net m) ∧
      storeOf net' s = some (removeKeys nds.store (rangeKeys nds.store prev j)) ∧
      storeOf net' j = some (importEntries ndj.store (rangeKeys nds.store prev j)) := by
  obtain ⟨net3, hb, rfl⟩ := join_ok net j peer net' h
  -- `s` served the hand-off (`c : Ctx`); `netT` is the net after the key transfer (`htr`), `net3` the one after the
  -- pointer updates that follow it (`hn3`)
  obtain ⟨s, prev, nds, netT, c, hgs, _, htr, hn3⟩ := joinBegin_ctx net hs hq j peer hj ndj hgj net3 hb
  have hsj := c.sj
  obtain ⟨tA, tB, tC⟩ := transferUp_stores _ netT s j prev nds { ndj with state := .joining } hsj
    (by rw [get_upd_other _ _ _ _ hsj]; exact hgs) (by rw [get_upd_same, hgj]; rfl) htr
  -- after the transfer only pointers and states are written
  have rest : ∀ m, storeOf (joinEnd net3 j) m = storeOf netT m := fun m => by
    rw [joinEnd_store, hn3, storeOf_upd _ _ _ _ (by intro _; rfl), storeOf_upd _ _ _ _ (by intro _; rfl)]
  refine ⟨s, prev, nds, c, hgs, fun m hms hmj => ?_, ?_, ?_⟩
  · rw [rest, tA m hms hmj, storeOf_upd _ _ _ _ (by intro _; rfl)]
  · rw [rest, tB]
  · rw [rest, tC]

/-- **Ownership after a join.** With `j` inserted between `prev` and `s`: the identifiers of `(prev, j]`
(all owned by `s` before) are owned by `j`; every other identifier keeps its owner. -/
theorem owner_after_join {net net' : Net} {j s prev : Nat} (c : Ctx net j s prev)
    (hmem : ∀ m, Mem net' m ↔ (Mem net m ∨ m = j)) (h : Nat) (hh : h < M) (o : Nat) (ho : IsOwner net h o) :
    (between prev h j true = true → o = s ∧ IsOwner net' h j) ∧
    (between prev h j true = false → IsOwner net' h o) := by
  have hsM := c.hs.lt s c.hsm; have hpM := c.hs.lt prev c.prevMem; have hjM := c.hj
  obtain ⟨ys, hys, hcs⟩ := c.hsm
  constructor
  · intro hbt
    -- going clockwise from `prev` one meets `h`, then `j`, then `s`, then the other old members
    have hhj := (between_closed_iff_cw prev h j hpM hh hjM).mp hbt
    have hjs := Nat.le_of_lt c.cw_j
    refine ⟨owner_unique net c.hs.lt h o s hh ho ⟨c.hsm, fun m hm =>
        dist_le_of_cw_le prev s h m hpM hsM hh (c.hs.lt m hm) (Nat.le_trans hhj hjs) (c.pred.2 m hm)⟩,
      (hmem j).mpr (Or.inr rfl), fun m hm => ?_⟩
    rcases (hmem m).mp hm with hm1 | rfl
    · exact dist_le_of_cw_le prev j h m hpM hjM hh (c.hs.lt m hm1) hhj (Nat.le_trans hjs (c.pred.2 m hm1))
    · exact Nat.le_refl _
  · intro hbf
    refine ⟨(hmem o).mpr (Or.inl ho.1), fun m hm => ?_⟩
    rcases (hmem m).mp hm with h1 | rfl
    · exact ho.2 m h1
    · -- else the joiner `m` comes before `o`, which then owns the joiner too, so `o = s`; what is left of its range
      -- `(prev, s]` outside `(prev, m]` is `(m, s]`, and there `s` comes before `m`
      apply Nat.le_of_not_lt
      intro hjo
      obtain rfl := owner_unique net c.hs.lt m o s hjM (isOwner_of_dist_lt c.hs.lt hh hjM ho hjo)
        (handOff_node_is_owner c)
      have hin := owner_in_pred_range net c.hs h o prev hh ho ys hys hcs (c.hsp ys hys)
      have := range_split prev m o h hpM hjM hsM hh c.hb hin hbf
      exact Nat.not_le.mpr hjo (dist_le_of_gap m o h m hjM hsM hh hjM this (by rw [dist_self]; omega) id)

theorem absGet_of_store (H : String → Nat) (hH : ∀ k, H k < M) (net : Net) (hlt : ∀ n, Mem net n → n < M)
    (k : String) (o : Nat) (st : List KEntry) (ho : IsOwner net (H k) o) (hst : storeOf net o = some st) :
    absGet H net k = viewOf st k := by
  obtain ⟨x, hx, rfl⟩ := storeOf_some hst
  exact absGet_eq H hH net hlt k o x ho hx

/-- **A hand-over of a key range, with ownership moving along, keeps the placement and every abstract value.**
`net'` has the stores of `net`, except that `dst` imported `RangeKeys(lo, hi]` of `src` and `src`, if it is still a
member, removed them (`stD`, `stS`, `stO`); the identifiers `src` owned in `(lo, hi]` are owned by `dst` in `net'`,
every other one by its old owner (`own`). This covers a joiner that is not yet a member of `net` (`dst` with
`dstSt = []`) and a leaver that is no longer one of `net'` (`src`); a `dst` that has data holds it as its owner
(`hDown`), so it holds nothing under the keys it receives. -/
theorem handOver_keeps_abs (H : String → Nat) (hH : ∀ k, H k < M) (net net' : Net) (hs : Stable net)
    (hlt' : ∀ n, Mem net' n → n < M) (hp : Placed H net)
    (src dst lo hi : Nat) (nds : Node) (dstSt : List KEntry) (hsd : src ≠ dst)
    (hgs : net.get src = some nds) (hcs : checkNodeState nds false = none)
    (hdst : ∀ nd, net.get dst = some nd → nd.store = dstSt) (hD : StoreOk H dstSt)
    (hDown : ∀ k, viewOf dstSt k ≠ (none, []) → IsOwner net (H k) dst)
    (hmem : ∀ m, Mem net' m → Mem net m ∨ m = dst)
    (stD : storeOf net' dst = some (importEntries dstSt (rangeKeys nds.store lo hi)))
    (stS : Mem net' src → storeOf net' src = some (removeKeys nds.store (rangeKeys nds.store lo hi)))
    (stO : ∀ m, m ≠ src → m ≠ dst → storeOf net' m = storeOf net m)
    (own : ∀ k o, IsOwner net (H k) o →
      (o = src ∧ between lo (H k) hi true = true → IsOwner net' (H k) dst) ∧
      (¬ (o = src ∧ between lo (H k) hi true = true) → IsOwner net' (H k) o)) :
    Placed H net' ∧ ∀ k, absGet H net' k = absGet H net k := by
  obtain ⟨hS, ownS⟩ := (placed_iff H net).mp hp src nds hgs hcs
  have hR : StoreOk H (rangeKeys nds.store lo hi) := hS.filter _
  have hsm : Mem net src := ⟨nds, hgs, hcs⟩
  have vS := fun k => (viewOf_range_split hS lo hi k).2
  -- the new store of `dst` reads: what `src` owned inside the range as `src` held it, everything else as `dst` did
  have vD : ∀ k o, IsOwner net (H k) o → viewOf (importEntries dstSt (rangeKeys nds.store lo hi)) k =
      if o = src ∧ between lo (H k) hi true = true then viewOf nds.store k else viewOf dstSt k := by
    intro k o ho
    split
    · next h =>
      rw [viewOf_import_blank _ hR.nodup hR.sorted _ k, (viewOf_range_split hS lo hi k).1, if_pos h.2]
      -- `dst` held nothing under `k`, else it would have been the owner
      exact Classical.byContradiction fun hv =>
        hsd (h.1.symm.trans (owner_unique net hs.lt (H k) o dst (hH k) ho (hDown k hv)))
    · next h =>
      apply viewOf_import_nodata _ hR.nodup (fun m hm => ((mem_rangeKeys _ _ _ _).mp hm).2.2) _ k
      rw [(viewOf_range_split hS lo hi k).1]
      split
      · next hb => exact non_owner_view H hH net hs hp src nds hgs hcs k o ho fun e => h ⟨e, hb⟩
      · rfl
  refine ⟨(placed_iff H net').mpr fun n1 nd1 h1 hc1 => ?_, fun k => ?_⟩
  -- placement, node by node: the receiver, the giver, any other member
  · by_cases e1 : n1 = dst
    · subst e1
      rw [store_eq_of_storeOf h1 stD]
      refine ⟨StoreOk.import _ _ hD hR.hash, fun k hv => ?_⟩
      obtain ⟨o, _, ho, _, _⟩ := owner_exists net hs src hsm (H k) (hH k)
      rw [vD k o ho] at hv
      split at hv
      · next h => exact (own k o ho).1 h
      · next h =>
        -- its own data: it was the owner and stays it
        obtain rfl := owner_unique net hs.lt (H k) o n1 (hH k) ho (hDown k hv)
        exact (own k o ho).2 h
    · by_cases e2 : n1 = src
      · subst e2
        rw [store_eq_of_storeOf h1 (stS ⟨nd1, h1, hc1⟩)]
        refine ⟨hS.filter _, fun k hv => ?_⟩
        rw [vS] at hv
        split at hv
        · exact absurd rfl hv
        · next hb => exact (own k n1 (ownS k hv)).2 fun h => hb h.2
      · obtain ⟨y, hy, hcy⟩ := (hmem n1 ⟨nd1, h1, hc1⟩).resolve_right e1
        obtain ⟨hY, ownY⟩ := (placed_iff H net).mp hp n1 y hy hcy
        rw [store_eq_of_storeOf h1 ((stO n1 e2 e1).trans (storeOf_get hy))]
        exact ⟨hY, fun k hv => (own k n1 (ownY k hv)).2 fun h => e2 h.1⟩
  -- the value of `k`, by its owner `o` in `net`: handed over, or still with `o`, which is `dst`, `src` or a third node
  · obtain ⟨o, ndo, ho, hgo, _⟩ := owner_exists net hs src hsm (H k) (hH k)
    rw [absGet_eq H hH net hs.lt k o ndo ho hgo]
    by_cases h : o = src ∧ between lo (H k) hi true = true
    · rw [absGet_of_store H hH net' hlt' k dst _ ((own k o ho).1 h) stD, vD k o ho, if_pos h]
      obtain ⟨rfl, _⟩ := h
      rw [hgs] at hgo; cases hgo; rfl
    · have ho' := (own k o ho).2 h
      by_cases e1 : o = dst
      · subst e1
        rw [absGet_of_store H hH net' hlt' k o _ ho' stD, vD k o ho, if_neg h, hdst ndo hgo]
      · by_cases e2 : o = src
        · subst e2
          rw [hgs] at hgo; cases hgo
          rw [absGet_of_store H hH net' hlt' k o _ ho' (stS ho'.1), vS, if_neg fun hb => h ⟨rfl, hb⟩]
        · exact absGet_of_store H hH net' hlt' k o _ ho' ((stO o e2 e1).trans (storeOf_get hgo))

/-- **Refinement of a join.** On a ring satisfying `Inv`, a completed `Join` of a fresh node with an empty
store (through whichever peer) keeps `Inv`, adds the joiner to the members and leaves the abstract value of
EVERY key unchanged: the data entries hashing into `(prev, j]` moved to the joiner — the new owner of exactly
these hashes —, everything else stayed with its owner. Tombstones of `(prev, j]` stay behind at the successor
(`rangeKeys` skips them) and read as "no value" there as they would at the joiner. `hempty` (what `new`
leaves) is the one hypothesis added to those of `join_preserves_stable`: a stale entry at the joiner would
break `Placed`. -/
theorem join_keeps_abs (H : String → Nat) (hH : ∀ k, H k < M) (net : Net) (hinv : Inv H net)
    (j peer : Nat) (hj : j < M) (hfresh : FreshJoiner net j)
    (hempty : ∀ nd, net.get j = some nd → nd.store = []) (net' : Net) (h : join net j peer = (net', none)) :
    Inv H net' ∧ Mem net' j ∧ (∀ m, Mem net' m ↔ (Mem net m ∨ m = j)) ∧
    ∀ k, absGet H net' k = absGet H net k := by
  obtain ⟨hs, hq, hp⟩ := hinv
  obtain ⟨hs', hq', hmj, hmem⟩ := join_preserves_stable net hs hq j peer hj hfresh net' h
  obtain ⟨ndj, hgj, _⟩ := hfresh.present
  obtain ⟨s, prev, nds, c, hgs, stO, stS, stJ⟩ := join_stores net hs hq j peer hj ndj hgj net' h
  rw [hempty ndj hgj] at stJ
  -- the joiner arrives with nothing; `s` owned the whole of `(prev, j]`
  obtain ⟨hp', habs⟩ := handOver_keeps_abs H hH net net' hs hs'.lt hp s j prev j nds [] c.sj hgs
    (live_of_mem c.hsm hgs) hempty (StoreOk.nil H) (fun k hv => absurd rfl hv) (fun m hm => (hmem m).mp hm)
    stJ (fun _ => stS) stO fun k o ho => by
      have own := owner_after_join c hmem (H k) (hH k) o ho
      refine ⟨fun hb => (own.1 hb.2).2, fun hn => ?_⟩
      cases hbt : between prev (H k) j true with
      | true => exact absurd ⟨(own.1 hbt).1, hbt⟩ hn
      | false => exact own.2 hbt
  exact ⟨⟨hs', hq', hp'⟩, hmj, hmem, habs⟩

/-- **Ownership after a leave.** Identifiers owned by the leaver go to its successor, all others keep
their owner. -/
theorem owner_after_leave {net net2 : Net} (hs : Stable net) (l sc : Nat) (ndl : Node)
    (hgl : net.get l = some ndl) (hcl : checkNodeState ndl false = none) (hsu : ndl.succs.head? = some sc)
    (hscl : sc ≠ l) (hmem : ∀ m, Mem net2 m ↔ (Mem net m ∧ m ≠ l))
    (h : Nat) (hh : h < M) (o : Nat) (ho : IsOwner net h o) :
    (o ≠ l → IsOwner net2 h o) ∧ (o = l → IsOwner net2 h sc) := by
  constructor
  · intro hne
    exact ⟨(hmem o).mpr ⟨ho.1, hne⟩, fun m hm => ho.2 m ((hmem m).mp hm).1⟩
  · intro e; subst e
    obtain ⟨hsm, hfirst⟩ := hs.succ_first hgl hcl hsu
    refine ⟨(hmem sc).mpr ⟨hsm, hscl⟩, fun m hm => ?_⟩
    obtain ⟨hm1, hm2⟩ := (hmem m).mp hm
    -- the way from `h` to `sc` and to `m ≠ o` passes `o`, and from `o` on no member comes before `sc`
    have hoM := hs.lt o ho.1
    rw [← dist_add h o sc hh hoM (hs.lt sc hsm) (ho.2 sc hsm), ← dist_add h o m hh hoM (hs.lt m hm1) (ho.2 m hm1)]
    rw [← cw_of_ne sc o (Ne.symm hscl), ← cw_of_ne m o (Ne.symm hm2)]
    exact Nat.add_le_add_left (hfirst m hm1) _

/-- **Refinement of a leave.** On a ring satisfying `Inv` with at least two members: a completed graceful
`Leave()` of `l`, the next `stabilize` of its predecessor, and then ANY sequence `rep` of background repair
tasks after which the ring is `Stable` and `Quiescent` again keep `Inv`, remove `l` from the members and leave
the abstract value of EVERY key unchanged: the leaver's data is at its successor, the new owner of its range;
nothing else moves, and repair never touches a store. The repair is needed: `Leave()` alone does not restore
`Stable` (`C02.Leave.leave_breaks_stable`), and the advisory's `fixFinger` leaves a finger to the leaver at
the predecessor. -/
theorem leave_repair_keeps_abs (H : String → Nat) (hH : ∀ k, H k < M) (net : Net) (hinv : Inv H net)
    (l : Nat) (hl : Mem net l) (hmore : ∃ m, Mem net m ∧ m ≠ l) (net' : Net) (h : leave net l = (net', none))
    (rep : List Task)
    (hst : Stable (rep.foldl runTask (stabilize net' (Specter.C02.Leave.predOf net l))))
    (hqt : Quiescent (rep.foldl runTask (stabilize net' (Specter.C02.Leave.predOf net l)))) :
    Inv H (rep.foldl runTask (stabilize net' (Specter.C02.Leave.predOf net l))) ∧
    (∀ m, Mem (rep.foldl runTask (stabilize net' (Specter.C02.Leave.predOf net l))) m ↔ (Mem net m ∧ m ≠ l)) ∧
    ∀ k, absGet H (rep.foldl runTask (stabilize net' (Specter.C02.Leave.predOf net l))) k = absGet H net k := by
  obtain ⟨hs, hq, hp⟩ := hinv
  obtain ⟨_, _, _, hmem1, _⟩ := Specter.C02.Leave.leave_then_stabilize_partial net hs hq l hl hmore net' h
  -- of `leave_conserves`: the leaver's first successor `sc ≠ l` (`hsu`, `hscl`) and its node `nds` before the leave;
  -- its store after the leave is `Import` of the leaver's data (`hst'`); no third store changes (`hother`)
  obtain ⟨sc, ndl, nds, hgl, hsu, hscl, hgs, _, ⟨nds', hgs', _, hst', _, _⟩, hother⟩ :=
    Specter.C02.Leave.leave_conserves net hs hq l hl hmore net' h
  have hcl := live_of_mem hl hgl
  have hsm := (hs.succ_first hgl hcl hsu).1
  have hcs := live_of_mem hsm hgs
  -- repair changes neither membership nor stores, and nothing else of the repaired ring `net2` is used
  generalize hn2 : rep.foldl runTask (stabilize net' (Specter.C02.Leave.predOf net l)) = net2 at hst hqt ⊢
  have hmem : ∀ m, Mem net2 m ↔ (Mem net m ∧ m ≠ l) := fun m => by
    rw [← hn2, mem_iff_live, repair_keeps (π := (checkNodeState · false)) (fun _ _ _ _ _ => rfl), ← mem_iff_live]
    exact hmem1 m
  have st2 : ∀ m, storeOf net2 m = storeOf net' m := fun m => by
    rw [← hn2, repair_preserves_stores, stabilize_store]
  obtain ⟨hD, ownD⟩ := (placed_iff H net).mp hp sc nds hgs hcs
  -- the range `(0, 0]` is the whole ring: everything `l` owned goes to `sc`; `l` is no member any more
  obtain ⟨hp', habs⟩ := handOver_keeps_abs H hH net net2 hs (fun n hn => hs.lt n ((hmem n).mp hn).1) hp l sc 0 0 ndl
    nds.store (Ne.symm hscl) hgl hcl (fun nd hg => by rw [hgs] at hg; cases hg; rfl) hD ownD
    (fun m hm => .inl ((hmem m).mp hm).1) (by rw [st2, storeOf_get hgs', hst'])
    (fun hm => absurd rfl ((hmem l).mp hm).2) (fun m h1 h2 => (st2 m).trans (hother m h1 h2)) fun k o ho => by
      have own := owner_after_leave hs l sc ndl hgl hcl hsu hscl hmem (H k) (hH k) o ho
      exact ⟨fun h => own.2 h.1, fun hn => own.1 fun e => hn ⟨e, between_self 0 _⟩⟩
  exact ⟨⟨hst, hqt, hp'⟩, hmem, habs⟩

end

/-- the special case without further repair, under the hypothesis `hno` of `leave_then_stabilize_stable`
(no survivor holds a finger to the leaver). In the model `hno` fails right after `Leave()` + `stabilize` on
the rings we tried: the advisory's `fixFinger` at the predecessor runs while the leaver still answers and
re-creates finger 1 → leaver (`hno_fails` in `C03/RefineDemo.lean`); the usable statement is
`leave_repair_keeps_abs`. -/
theorem leave_keeps_abs (H : String → Nat) (hH : ∀ k, H k < M) (net : Net) (hinv : Inv H net)
    (l : Nat) (hl : Mem net l) (hmore : ∃ m, Mem net m ∧ m ≠ l) (net' : Net) (h : leave net l = (net', none))
    (hno : ∀ n nd, (stabilize net' (Specter.C02.Leave.predOf net l)).get n = some nd →
      checkNodeState nd false = none → some l ∉ nd.fingers) :
    Inv H (stabilize net' (Specter.C02.Leave.predOf net l)) ∧
    (∀ m, Mem (stabilize net' (Specter.C02.Leave.predOf net l)) m ↔ (Mem net m ∧ m ≠ l)) ∧
    ∀ k, absGet H (stabilize net' (Specter.C02.Leave.predOf net l)) k = absGet H net k := by
  obtain ⟨hs2, hq2, _, _⟩ :=
    Specter.C02.Leave.leave_then_stabilize_stable net hinv.stable hinv.quiescent l hl hmore net' h hno
  exact leave_repair_keeps_abs H hH net hinv l hl hmore net' h [] hs2 hq2

inductive Op where
  | kv (n : Nat) (k : String) (op : KvOp)     -- a KV operation on key `k` issued through node `n`
  | join (j peer : Nat)                        -- `Join(peer)` at the fresh node `j`
  | leave (l : Nat) (rep : List Specter.C07.Task)  -- `Leave()` at `l`, the predecessor's next `stabilize`, then repair tasks `rep`

/-- the sequential specification: one value per key -/
abbrev Spec := String → Val

def specStep (σ : Spec) (k : String) (op : KvOp) : Spec × KvOut :=
  (fun k' => if k' = k then (valStep (σ k) op).1 else σ k', (valStep (σ k) op).2)

/-- run a history on the sequential specification: membership changes are invisible, entry nodes irrelevant -/
def specRun : Spec → List Op → Spec × List KvOut
  | σ, [] => (σ, [])
  | σ, .kv _ k op :: ops => ((specRun (specStep σ k op).1 ops).1, (specStep σ k op).2 :: (specRun (specStep σ k op).1 ops).2)
  | σ, .join _ _ :: ops => specRun σ ops
  | σ, .leave _ _ :: ops => specRun σ ops

def joins : List Op → Nat
  | [] => 0
  | .join _ _ :: ops => joins ops + 1
  | _ :: ops => joins ops

/-- **Sequential execution of a history on the ring** (one complete operation after the other), every
membership change succeeding: running `ops` from `net` produces the KV answers `outs` and ends in `net'`.
A `kv` step enters through a live member; a `join` step is the single attempt of `Join` at a `FreshJoiner`
with an empty store, reporting success (guaranteed through any member by `join_succeeds_sized`); a `leave`
step includes the predecessor's next `stabilize` and repair tasks `rep` after which the ring is stable and
quiescent again (see `leave_repair_keeps_abs`). -/
inductive Exec (H : String → Nat) : Net → List Op → List KvOut → Net → Prop where
  | nil (net : Net) : Exec H net [] [] net
  | kv (net : Net) (n : Nat) (k : String) (op : KvOp) (ops : List Op) (outs : List KvOut) (net' : Net)
      (hn : Mem net n) (hrest : Exec H (kvAt net FUEL n k (H k) op).1 ops outs net') :
      Exec H net (.kv n k op :: ops) ((kvAt net FUEL n k (H k) op).2 :: outs) net'
  | join (net : Net) (j peer : Nat) (net1 : Net) (ops : List Op) (outs : List KvOut) (net' : Net)
      (hj : j < M) (hfresh : FreshJoiner net j) (hempty : ∀ nd, net.get j = some nd → nd.store = [])
      (h : join net j peer = (net1, none)) (hrest : Exec H net1 ops outs net') :
      Exec H net (.join j peer :: ops) outs net'
  | leave (net : Net) (l : Nat) (rep : List Specter.C07.Task) (net1 : Net) (ops : List Op) (outs : List KvOut) (net' : Net)
      (hl : Mem net l) (hmore : ∃ m, Mem net m ∧ m ≠ l) (h : leave net l = (net1, none))
      (hst : Stable (rep.foldl Specter.C07.runTask (stabilize net1 (Specter.C02.Leave.predOf net l))))
      (hqt : Quiescent (rep.foldl Specter.C07.runTask (stabilize net1 (Specter.C02.Leave.predOf net l))))
      (hrest : Exec H (rep.foldl Specter.C07.runTask (stabilize net1 (Specter.C02.Leave.predOf net l))) ops outs net') :
      Exec H net (.leave l rep :: ops) outs net'

/-- **C03 / C05, end to end for sequential histories.** From a ring satisfying `Inv` (stable, quiescent,
every data entry on the owner of its hash) with `b` members, any history of KV operations through arbitrary
members, joins of fresh nodes through arbitrary peers and graceful leaves (each with the predecessor's
`stabilize` and repair tasks after which the ring is stable and quiescent again, as `Exec` demands), executed
one after the other with `b + #joins < 256`:
* the KV answers are EXACTLY those of the sequential per-key specification (`specRun` from the initial
  abstract values): reads return the latest acknowledged write, deleted data does not reappear, conflicts
  are reported iff the child is there — whatever the entry nodes and the membership changes in between;
* the final ring satisfies `Inv` again (C05), and its abstract values are the specification's. -/
theorem history_refines (H : String → Nat) (hH : ∀ k, H k < M) (net : Net) (ops : List Op) (outs : List KvOut)
    (net' : Net) (hex : Exec H net ops outs net') :
    ∀ (b : Nat), Inv H net → Sized net b → b + joins ops < FUEL →
      outs = (specRun (absGet H net) ops).2 ∧ Inv H net' ∧
      ∀ k, absGet H net' k = (specRun (absGet H net) ops).1 k := by
  induction hex with
  | nil net => intro b hinv _ _; exact ⟨rfl, hinv, fun _ => rfl⟩
  | kv net n k op ops outs net' hn _ ih =>
    intro b hinv hsz hb
    -- `Exec` runs `kvAt` with `FUEL` = 256, which unfolds to the `254 + 2` of `kv_refines`
    obtain ⟨h1, h2, h3, h4, h5⟩ := kv_refines H hH net hinv b hsz (by simp only [joins] at hb; omega) n hn k op 254
    have hfun : absGet H (kvAt net FUEL n k (H k) op).1 = (specStep (absGet H net) k op).1 := by
      funext k'
      simp only [specStep]
      split
      · rename_i e; rw [e]; exact h4
      · rename_i e; exact h5 k' e
    obtain ⟨i1, i2⟩ := ih b h2 (hsz.congr fun m hm => (h3 m).mp hm) (by simpa [joins] using hb)
    simp only [specRun]
    rw [← hfun, ← i1]
    exact ⟨congrArg (· :: outs) h1, i2⟩
  | join net j peer net1 ops outs net' hj hfresh hempty h _ ih =>
    intro b hinv hsz hb
    obtain ⟨h1, _, h3, h4⟩ := join_keeps_abs H hH net hinv j peer hj hfresh hempty net1 h
    simp only [specRun]
    rw [← funext h4]
    exact ih (b+1) h1 (hsz.succ fun m hm => (h3 m).mp hm) (by simp only [joins] at hb; omega)
  | leave net l rep net1 ops outs net' hl hmore h hst hqt _ ih =>
    intro b hinv hsz hb
    obtain ⟨h1, h3, h4⟩ := leave_repair_keeps_abs H hH net hinv l hl hmore net1 h rep hst hqt
    simp only [specRun]
    rw [← funext h4]
    exact ih b h1 (hsz.congr fun m hm => ((h3 m).mp hm).1) (by simpa [joins] using hb)

/-- progress for the join steps of a history: through any live member, the join of a fresh node succeeds -/
theorem join_succeeds_sized (H : String → Nat) (net : Net) (hinv : Inv H net) (b : Nat) (hsz : Sized net b)
    (hb : b < FUEL) (j peer : Nat) (hj : j < M) (hfresh : FreshJoiner net j) (hp : Mem net peer) :
    ∃ net', join net j peer = (net', none) :=
  join_succeeds net hinv.stable hinv.quiescent j peer hj hfresh hp
    (lookupsComplete_of_sized net hinv.stable b hsz hb j hj)

theorem specRun_append (a b : List Op) (σ : Spec) :
    specRun σ (a ++ b) = ((specRun (specRun σ a).1 b).1, (specRun σ a).2 ++ (specRun (specRun σ a).1 b).2) := by
  fun_induction specRun σ a with
  | case1 => rfl
  | _ => simp only [List.cons_append, specRun, *]

def writesSimple (k : String) : Op → Bool
  | .kv _ k' (.put _) => k' == k
  | .kv _ k' .delete => k' == k
  | _ => false

theorem spec_simple_frame (k : String) (ops : List Op) (σ : Spec)
    (h : ∀ op ∈ ops, writesSimple k op = false) : ((specRun σ ops).1 k).1 = (σ k).1 := by
  fun_induction specRun σ ops with
  | case1 => rfl
  | case2 σ n k' op ops ih =>
    refine (ih fun o ho => h o (List.mem_cons_of_mem _ ho)).trans ?_
    have hx := h _ List.mem_cons_self
    simp only [specStep]
    by_cases e : k = k'
    · subst e
      simp only [if_true]
      cases op with
      | put v => simp [writesSimple] at hx
      | delete => simp [writesSimple] at hx
      | pAppend c => simp only [valStep]; split <;> rfl
      | _ => rfl
    · simp only [e, if_false]
  | case3 _ _ _ _ ih => exact ih fun o ho => h o (List.mem_cons_of_mem _ ho)
  | case4 _ _ _ _ ih => exact ih fun o ho => h o (List.mem_cons_of_mem _ ho)

/-- **A read returns what the last write wrote**, for any operation `w` on `k` that sets the simple value to `x`
whatever it was (`put`, `delete`). -/
theorem read_after_write (H : String → Nat) (hH : ∀ k, H k < M) (net : Net) (pre mid : List Op)
    (n n' : Nat) (k : String) (w : KvOp) (x : Option String) (hw : ∀ v : Val, (valStep v w).1.1 = x)
    (outs : List KvOut) (net' : Net) (b : Nat)
    (hex : Exec H net (pre ++ (.kv n k w :: (mid ++ [.kv n' k .get]))) outs net')
    (hinv : Inv H net) (hsz : Sized net b)
    (hb : b + joins (pre ++ (.kv n k w :: (mid ++ [.kv n' k .get]))) < FUEL)
    (hmid : ∀ op ∈ mid, writesSimple k op = false) :
    ∃ front, outs = front ++ [.value x] := by
  refine ⟨(specRun (absGet H net) (pre ++ .kv n k w :: mid)).2, ?_⟩
  rw [(history_refines H hH net _ outs net' hex b hinv hsz hb).1,
    show pre ++ (.kv n k w :: (mid ++ [.kv n' k .get])) = (pre ++ .kv n k w :: mid) ++ [.kv n' k .get] by simp,
    specRun_append (pre ++ .kv n k w :: mid)]
  show _ ++ [KvOut.value _] = _
  rw [specRun_append]
  simp only [specRun]
  rw [spec_simple_frame k mid _ hmid]
  simp only [specStep, if_true]
  rw [hw]

/-- **Reads return the latest acknowledged write.** In any sequential history on the ring: after
`put k v` (through any node), whatever happens next that is not a put/delete of `k` — operations on other
keys, prefix operations on `k`, joins, leaves —, a `get k` through any node returns `v`. -/
theorem read_latest_write (H : String → Nat) (hH : ∀ k, H k < M) (net : Net) (pre mid : List Op)
    (n n' : Nat) (k v : String) (outs : List KvOut) (net' : Net) (b : Nat)
    (hex : Exec H net (pre ++ (.kv n k (.put v) :: (mid ++ [.kv n' k .get]))) outs net')
    (hinv : Inv H net) (hsz : Sized net b)
    (hb : b + joins (pre ++ (.kv n k (.put v) :: (mid ++ [.kv n' k .get]))) < FUEL)
    (hmid : ∀ op ∈ mid, writesSimple k op = false) :
    ∃ front, outs = front ++ [.value (some v)] :=
  read_after_write H hH net pre mid n n' k (.put v) (some v) (fun _ => rfl) outs net' b hex hinv hsz hb hmid

/-- **No deleted data reappears.** After `delete k`, whatever joins, leaves and operations other than a
put or a further delete of `k` follow, a `get k` through any node returns nil. -/
theorem deleted_stays_deleted (H : String → Nat) (hH : ∀ k, H k < M) (net : Net) (pre mid : List Op)
    (n n' : Nat) (k : String) (outs : List KvOut) (net' : Net) (b : Nat)
    (hex : Exec H net (pre ++ (.kv n k .delete :: (mid ++ [.kv n' k .get]))) outs net')
    (hinv : Inv H net) (hsz : Sized net b)
    (hb : b + joins (pre ++ (.kv n k .delete :: (mid ++ [.kv n' k .get]))) < FUEL)
    (hmid : ∀ op ∈ mid, writesSimple k op = false) :
    ∃ front, outs = front ++ [.value none] :=
  read_after_write H hH net pre mid n n' k .delete none (fun _ => rfl) outs net' b hex hinv hsz hb hmid

/-! ### executable forms of the hypotheses -/

def placedB (H : String → Nat) (net : Net) : Bool :=
  net.all fun q =>
    if memB net q.1 then
      match net.get q.1 with
      | some nd =>
        nd.store.all (fun e => e.hash == H e.key && decide (Canon e.children) &&
          (e.isDeleted || ownerOf net e.hash == some q.1)) &&
        decide ((nd.store.map (·.key)).Nodup)
      | none => false
    else true

theorem placed_of_placedB (H : String → Nat) (net : Net) (h : placedB H net = true) : Placed H net := by
  unfold placedB at h
  rw [List.all_eq_true] at h
  have key : ∀ n nd, net.get n = some nd → checkNodeState nd false = none →
      (∀ e ∈ nd.store, e.hash = H e.key ∧ Canon e.children ∧ (e.isDeleted = true ∨ ownerOf net e.hash = some n)) ∧
      (nd.store.map (·.key)).Nodup := by
    intro n nd hg hc
    have := h _ (get_mem net n nd hg)
    have hmb : memB net n = true := (memB_iff net n).mpr ⟨nd, hg, hc⟩
    simp only [hmb, if_true, hg, Bool.and_eq_true, List.all_eq_true, decide_eq_true_eq, Bool.or_eq_true,
      beq_iff_eq] at this
    exact ⟨fun e he => ⟨(this.1 e he).1.1, (this.1 e he).1.2, (this.1 e he).2⟩, this.2⟩
  refine ⟨fun n nd hg hc e he => ((key n nd hg hc).1 e he).1, fun n nd hg hc => (key n nd hg hc).2,
    fun n nd hg hc e he => ((key n nd hg hc).1 e he).2.1, fun n nd hg hc e he hd => ?_⟩
  rcases ((key n nd hg hc).1 e he).2.2 with h1 | h1
  · rw [hd] at h1; exact absurd h1 (by simp)
  · exact ownerOf_isOwner net e.hash n h1

theorem sized_length (net : Net) : Sized net net.length :=
  ⟨net.map (·.1), by simp, fun m ⟨nd, hg, _⟩ => List.mem_map.mpr ⟨(m, nd), get_mem net m nd hg, rfl⟩⟩

open Specter.C07 in
theorem empty_of_storeOf (net : Net) (j : Nat) (h : storeOf net j = some []) :
    ∀ nd, net.get j = some nd → nd.store = [] := by
  intro nd hg
  rw [storeOf_get hg] at h
  injection h

/-! ### non-vacuity: a ring with data, a KV operation, a join (a leave and a whole history: `C03/RefineDemo.lean`) -/

def H0 (k : String) : Nat := k.length % M
theorem H0_lt (k : String) : H0 k < M := Nat.mod_lt _ (by simp [M])

def nodeA : Node :=
  { state := .active, pred := some (2^48-1), succs := [5, 2^48-1, 0], fingers := List.replicate 48 (some 5),
    store := [⟨"", 0, some "root", []⟩] }
def nodeB : Node :=
  { state := .active, pred := some 0, succs := [2^48-1, 0, 5], fingers := List.replicate 48 (some (2^48-1)),
    store := [⟨"abc", 3, some "v", []⟩, ⟨"ab", 2, none, ["x", "y"]⟩, ⟨"abcd", 4, some "w", ["c"]⟩, ⟨"a", 1, none, []⟩] }
def nodeC : Node :=
  { state := .active, pred := some 5, succs := [0, 5, 2^48-1], fingers := List.replicate 48 none,
    store := [⟨"abcdefg", 7, some "far", []⟩] }

/-- the three-node ring of C01 (ids 0, 5, 2^48-1, a departed node 9 still present) with data on every
node — node 5 holds two data keys in `(0, 3]`, one in `(3, 5]` and a tombstone ("a") —, plus a node 3 as
`new` leaves it -/
def dataRing : Net :=
  [(0, nodeA), (5, nodeB), (9, { state := .left, pred := some 5, succs := [2^48-1] }), (2^48-1, nodeC), (3, {})]

theorem mem_of_memB {net : Net} {n : Nat} (h : memB net n = true) : Mem net n := (memB_iff net n).mp h

theorem dataRing_inv : Inv H0 dataRing :=
  ⟨stable_of_stableB _ (by decide +kernel), quiescent_of_quiescentB _ (by decide +kernel),
   placed_of_placedB _ _ (by decide +kernel)⟩

/-- a read of "abc" through node 0 is served by node 5 and returns the stored value; `kv_refines` applies -/
example : (kvAt dataRing FUEL 0 "abc" (H0 "abc") .get).2 = .value (some "v") := by decide +kernel
example : absGet H0 dataRing "abc" = (some "v", []) ∧ absGet H0 dataRing "a" = (none, []) ∧
    absGet H0 dataRing "ab" = (none, ["x", "y"]) := by decide +kernel
example : (kvAt dataRing (254+2) 0 "abc" (H0 "abc") .get).2 = (valStep (absGet H0 dataRing "abc") .get).2 :=
  (kv_refines H0 H0_lt dataRing dataRing_inv 5 (sized_length _) (by decide) 0 (mem_of_memB (by decide +kernel))
    "abc" .get 254).1

/-- node 3 joins through node 0: the single attempt of `Join` reports success -/
theorem dataRing_join : join dataRing 3 0 = ((join dataRing 3 0).1, none) :=
  eq_of_snd_none _ (by decide +kernel)

/-- the ring after that join, evaluated once for the two examples and `tombstone_stays_behind` below: the data
keys hashing into `(0, 3]` have moved to node 3, the tombstone and the key hashing to 4 stay at node 5 -/
theorem dataRing_joined :
    ((join dataRing 3 0).1.get 3).map (·.store.map (·.key)) = some ["abc", "ab"] ∧
    ((join dataRing 3 0).1.get 5).map (·.store.map (·.key)) = some ["abcd", "a"] ∧
    ((join dataRing 3 0).1.get 5).map (·.store.any (fun e => e.key == "a" && e.isDeleted)) = some true ∧
    ownerOf (join dataRing 3 0).1 (H0 "a") = some 3 ∧ absGet H0 (join dataRing 3 0).1 "a" = (none, []) := by
  decide +kernel

example : ((join dataRing 3 0).1.get 3).map (·.store.map (·.key)) = some ["abc", "ab"] := dataRing_joined.1
example : ((join dataRing 3 0).1.get 5).map (·.store.map (·.key)) = some ["abcd", "a"] := dataRing_joined.2.1

/-- `join_keeps_abs` applies to that join: every abstract value is unchanged -/
theorem dataRing_join_refines :
    Inv H0 (join dataRing 3 0).1 ∧ Mem (join dataRing 3 0).1 3 ∧
    ∀ k, absGet H0 (join dataRing 3 0).1 k = absGet H0 dataRing k :=
  have h := join_keeps_abs H0 H0_lt dataRing dataRing_inv 3 0 (by decide) (fresh_of_freshB _ _ (by decide +kernel))
    (empty_of_storeOf _ _ (by decide +kernel)) _ dataRing_join
  ⟨h.1, h.2.1, h.2.2.2⟩

/-- **Why `Placed` exempts tombstones.** After that join the tombstone "a" (hash 1) is still at node 5
although node 3 now owns hash 1: `rangeKeys` (as the memory back-end's `RangeKeys`) selects data only, so a
hand-off leaves tombstones behind. The raw statement "every ENTRY lives on the owner of its hash" is
therefore false of the model; "every entry HOLDING DATA does" is the invariant (`Placed.owned`), and the
value view of the key is unaffected (`absGet … "a" = (none, [])` before and after). -/
theorem tombstone_stays_behind :
    ((join dataRing 3 0).1.get 5).map (·.store.any (fun e => e.key == "a" && e.isDeleted)) = some true ∧
    ownerOf (join dataRing 3 0).1 (H0 "a") = some 3 ∧ absGet H0 (join dataRing 3 0).1 "a" = (none, []) :=
  dataRing_joined.2.2

/-- **Why `Placed` asks for sorted children** (`Canon`): `Import` re-inserts children one by one, so an
unsorted list would come out permuted and `pList` would answer differently after a hand-off. Every list
the model's operations build is sorted (`StoreOk.kvLocal`, `StoreOk.import`), so nothing is lost. -/
example : (importedEntry ⟨"k", 1, none, ["y", "x"]⟩).children = ["x", "y"] := by decide

/-- **Why operations carry `H k`**: the model's `kvAt` takes key and hash as independent arguments (the
hash function is outside the model); a read that presents another hash for the same key is routed to
another node and misses the value. All theorems are about operations presenting the hash of their key. -/
example : (kvAt (kvAt dataRing FUEL 0 "abc" 3 (.put "z")).1 FUEL 0 "abc" 7 .get).2 = .value none := by
  decide +kernel

end Specter.C03.Refine
