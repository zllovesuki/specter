import SpecterModel.C01.Lemmas
/-!
# C03 / C05 — the store functions of `C01/Model.lean`, read key by key

What `kvUpsert`, `importEntries`, `rangeKeys` (a `filter`) and `removeKeys` do to `kvFind`. With distinct keys an
entry is in a store iff `kvFind` returns it under its key (`kvFind_of_mem`, `kvFind_some`): the membership statements
of `C05/Props.lean` and the value view of `C03/Store.lean` both read these.
-/
namespace Specter.C03.Refine
open Specter.Ring

theorem eq_of_key_eq (st : List KEntry) (hnd : (st.map (·.key)).Nodup) (a b : KEntry)
    (ha : a ∈ st) (hb : b ∈ st) (hk : a.key = b.key) : a = b := by
  -- no two entries at different places have the same key
  have hp : st.Pairwise fun a b => a.key ≠ b.key := List.pairwise_map.mp hnd
  exact List.Pairwise.forall_of_forall_of_flip (R := fun a b => a.key = b.key → a = b) (fun _ _ _ => rfl)
    (hp.imp fun h e => absurd e h) (hp.imp fun h e => absurd e.symm h) ha hb hk

theorem kvFind_some {st : List KEntry} {k : String} {e : KEntry} (h : kvFind st k = some e) :
    e ∈ st ∧ e.key = k :=
  ⟨List.mem_of_find?_eq_some h, by simpa using List.find?_some h⟩

theorem kvFind_none {st : List KEntry} {k : String} (h : kvFind st k = none) : ∀ e ∈ st, e.key ≠ k := by
  intro e he
  have := List.find?_eq_none.mp h e he
  simpa using this

theorem kvFind_of_mem (st : List KEntry) (hnd : (st.map (·.key)).Nodup) (e : KEntry) (he : e ∈ st) :
    kvFind st e.key = some e := by
  cases hf : kvFind st e.key with
  | none => exact absurd rfl (kvFind_none hf e he)
  | some e' =>
    obtain ⟨h1, h2⟩ := kvFind_some hf
    rw [eq_of_key_eq st hnd e' e h1 he h2]

theorem kvFind_of_not_key {st : List KEntry} {k : String} (h : k ∉ st.map (·.key)) : kvFind st k = none := by
  cases hf : kvFind st k with
  | none => rfl
  | some m => exact absurd (List.mem_map.mpr ⟨m, (kvFind_some hf).1, (kvFind_some hf).2⟩) h

theorem any_key (st : List KEntry) (k : String) : st.any (·.key == k) = (kvFind st k).isSome :=
  Bool.eq_iff_iff.mpr (by unfold kvFind; rw [List.any_eq_true, List.find?_isSome])

theorem kvFind_map (st : List KEntry) (g : KEntry → KEntry) (hg : ∀ e, (g e).key = e.key) (k : String) :
    kvFind (st.map g) k = (kvFind st k).map g := by
  unfold kvFind
  rw [List.find?_map]
  simp only [Function.comp_def, hg]

theorem kvFind_cons (x : KEntry) (xs : List KEntry) (k : String) :
    kvFind (x :: xs) k = if x.key = k then some x else kvFind xs k := by
  unfold kvFind
  rw [List.find?_cons]
  cases hb : x.key == k
  · rw [if_neg (by simpa using hb)]
  · rw [if_pos (by simpa using hb)]

theorem kvFind_filter (st : List KEntry) (hnd : (st.map (·.key)).Nodup) (p : KEntry → Bool) (k : String) :
    kvFind (st.filter p) k = (kvFind st k).filter p := by
  induction st with
  | nil => rfl
  | cons x xs ih =>
    simp only [List.map_cons, List.nodup_cons] at hnd
    rw [kvFind_cons, List.filter_cons]
    by_cases hk : x.key = k
    · have hxs : kvFind xs k = none := kvFind_of_not_key (hk ▸ hnd.1)
      cases hp : p x <;> simp [hk, hp, Option.filter, kvFind_cons, ih hnd.2, hxs]
    · cases hp : p x <;> simp [hk, kvFind_cons, ih hnd.2]

/-- the entry `kvUpsert` creates for a key that has none (the record `C05.mem_kvUpsert` writes out) -/
def blank (k : String) (h : Nat) : KEntry := { key := k, hash := h, simple := none, children := [] }

theorem kvUpsert_eq (st : List KEntry) (k : String) (h : Nat) (f : KEntry → KEntry) :
    kvUpsert st k h f =
      match kvFind st k with
      | some _ => st.map (fun e => if e.key == k then f e else e)
      | none => st ++ [f (blank k h)] := by
  unfold kvUpsert
  rw [any_key]
  cases kvFind st k <;> rfl

theorem kvUpsert_of_none (st : List KEntry) (k : String) (h : Nat) (f : KEntry → KEntry) (hf : kvFind st k = none) :
    kvUpsert st k h f = st ++ [f (blank k h)] := by
  rw [kvUpsert_eq, hf]

theorem kvFind_kvUpsert (st : List KEntry) (k : String) (h : Nat) (f : KEntry → KEntry)
    (hf : ∀ e, (f e).key = e.key) (k' : String) :
    kvFind (kvUpsert st k h f) k' =
      if k' = k then some (f ((kvFind st k).getD (blank k h))) else kvFind st k' := by
  rw [kvUpsert_eq]
  cases hk0 : kvFind st k with
  | some e0 =>
    simp only [Option.getD_some]
    rw [kvFind_map _ _ (by intro e; split <;> simp [hf])]
    by_cases hk : k' = k
    · subst hk; simp [hk0, (kvFind_some hk0).2]
    · cases hf' : kvFind st k' with
      | none => simp [hk]
      | some e => simp [hk, (kvFind_some hf').2]
  | none =>
    simp only [Option.getD_none]
    unfold kvFind at hk0 ⊢
    rw [List.find?_append]
    by_cases hk : k' = k
    · subst hk; simp [hk0, hf, blank]
    · have : ((f (blank k h)).key == k') = false := by
        rw [hf]; simpa [blank] using fun e => hk e.symm
      simp [hk, this]

/-- what `Import` does to the entry `old` it finds (or creates) for an imported entry `m`;
`C05.importedEntry m` is `impF m (blank m.key m.hash)`, by `rfl` -/
def impF (m : KEntry) (old : KEntry) : KEntry :=
  { old with simple := m.simple, children := m.children.foldl (fun cs c => insertSorted c cs) old.children }

theorem importEntries_cons (st : List KEntry) (x : KEntry) (xs : List KEntry) :
    importEntries st (x :: xs) = importEntries (kvUpsert st x.key x.hash (impF x)) xs := by
  unfold importEntries; rfl

theorem kvFind_import (es : List KEntry) (hnd : (es.map (·.key)).Nodup) (k : String) : ∀ st : List KEntry,
    kvFind (importEntries st es) k =
      match kvFind es k with
      | none => kvFind st k
      | some m => some (impF m ((kvFind st k).getD (blank k m.hash))) := by
  induction es with
  | nil => intro st; rfl
  | cons x xs ih =>
    intro st
    simp only [List.map_cons, List.nodup_cons] at hnd
    rw [importEntries_cons, ih hnd.2, kvFind_cons]
    have hup := kvFind_kvUpsert st x.key x.hash (impF x) (fun _ => rfl) k
    by_cases hk : x.key = k
    · subst hk
      simp only [kvFind_of_not_key hnd.1, if_true]
      rw [hup]; simp
    · have hk' : k ≠ x.key := fun e => hk e.symm
      simp only [hk, if_false]
      rw [hup]; simp only [hk', if_false]

theorem removeKeys_filter (st : List KEntry) (hnd : (st.map (·.key)).Nodup) (p : KEntry → Bool) :
    removeKeys st (st.filter p) = st.filter (fun e => !p e) := by
  unfold removeKeys
  apply List.filter_congr
  intro e he
  rw [any_key, kvFind_filter st hnd p, kvFind_of_mem st hnd e he]
  cases hp : p e <;> simp [Option.filter, hp]

end Specter.C03.Refine
