import SpecterModel.C03.Refine
/-!
# C03 / C05 — a complete sequential history on a concrete ring (non-vacuity of `history_refines`)

Separate module only to keep build times low: every fact below is decided by kernel evaluation of the ring
model from `Refine.dataRing` on; the run along the history is evaluated once (`demo_run`).
-/
namespace Specter.C03.Refine
open Specter.Ring Specter.C01 Specter.C03 Specter.C05 Specter.C09 Specter.C02

/-- a history: put through node 0 (served by 5) — node 3 joins (the key moves to it) — read through node
2^48-1 — node 5 leaves (its remaining data goes to 2^48-1; three finger repairs make the ring stable again) —
read through node 3 -/
def e1 : Net := (kvAt dataRing FUEL 0 "abc" (H0 "abc") (.put "new")).1
def e2 : Net := (join e1 3 0).1
def e3 : Net := (kvAt e2 FUEL (2^48-1) "abc" (H0 "abc") .get).1
def rep5 : List Specter.C07.Task := [.fixFinger 0, .fixFinger 3, .fixFinger (2^48-1)]
def e4 : Net := rep5.foldl Specter.C07.runTask (stabilize (leave e3 5).1 (Specter.C02.Leave.predOf e3 5))
def e5 : Net := (kvAt e4 FUEL 3 "abcd" (H0 "abcd") .get).1

def demoOps : List Op :=
  [.kv 0 "abc" (.put "new"), .join 3 0, .kv (2^48-1) "abc" .get, .leave 5 rep5, .kv 3 "abcd" .get]

/-- all that this file needs of the run, in one kernel evaluation so that each net is computed once: the two
facts of `hno_fails`, then the side conditions of `Exec` along the history -/
theorem demo_run :
    (((stabilize (leave e3 5).1 (Specter.C02.Leave.predOf e3 5)).get 3).map (·.fingers.contains (some 5)) = some true ∧
      stableB (stabilize (leave e3 5).1 (Specter.C02.Leave.predOf e3 5)) = false) ∧
    memB dataRing 0 = true ∧ freshB e1 3 = true ∧ Specter.C07.storeOf e1 3 = some [] ∧ (join e1 3 0).2 = none ∧
    memB e2 (2^48-1) = true ∧ memB e3 5 = true ∧ memB e3 3 = true ∧ (leave e3 5).2 = none ∧
    stableB e4 = true ∧ quiescentB e4 = true ∧ memB e4 3 = true := by
  decide +kernel

/-- **Witness: the hypothesis `hno` of `leave_then_stabilize_stable` fails** right after `Leave()` and the
predecessor's `stabilize`: the predecessor (node 3) still holds a finger to the leaver (node 5), written
by the advisory's `fixFinger` while the leaver was still answering; the ring is not `Stable` until fingers
are repaired (here three `fixFinger` runs: `stableB e4` in `demo_run`). This is why the leave step of a
history includes repair. -/
theorem hno_fails :
    ((stabilize (leave e3 5).1 (Specter.C02.Leave.predOf e3 5)).get 3).map (·.fingers.contains (some 5)) = some true ∧
    stableB (stabilize (leave e3 5).1 (Specter.C02.Leave.predOf e3 5)) = false :=
  demo_run.1

theorem demo_exec : Exec H0 dataRing demoOps
    [(kvAt dataRing FUEL 0 "abc" (H0 "abc") (.put "new")).2, (kvAt e2 FUEL (2^48-1) "abc" (H0 "abc") .get).2,
     (kvAt e4 FUEL 3 "abcd" (H0 "abcd") .get).2] e5 := by
  obtain ⟨_, a1, a2, a3, a4, a5, b1, b2, b3, d1, d2, d3⟩ := demo_run
  -- each net is folded back into its name as it comes up: left to the kernel, `e3 ≡ (kvAt e2 …).1` is decided
  -- by evaluating `kvAt` on `e2`, that is, by running the whole history once more
  refine Exec.kv dataRing 0 "abc" (.put "new") _ _ e5 (mem_of_memB a1) ?_
  rw [← e1]
  refine Exec.join e1 3 0 e2 _ _ e5 (by decide) (fresh_of_freshB _ _ a2) (empty_of_storeOf _ _ a3) ?_ ?_
  · rw [e2]; exact eq_of_snd_none _ a4
  refine Exec.kv e2 (2^48-1) "abc" .get _ _ e5 (mem_of_memB a5) ?_
  rw [← e3]
  refine Exec.leave e3 5 rep5 (leave e3 5).1 _ _ e5 (mem_of_memB b1) ⟨3, mem_of_memB b2, by decide⟩
    (eq_of_snd_none _ b3) ?_ ?_ ?_ <;> rw [← e4]
  · exact stable_of_stableB _ d1
  · exact quiescent_of_quiescentB _ d2
  refine Exec.kv e4 3 "abcd" .get _ _ e5 (mem_of_memB d3) ?_
  rw [← e5]
  exact Exec.nil e5

/-- the answers of the sequential specification for this history: ok, "new" (read after the join, through
another node), "w" (read after the leave) -/
theorem demo_outputs :
    (specRun (absGet H0 dataRing) demoOps).2 = [.unit, .value (some "new"), .value (some "w")] := by decide +kernel

/-- `history_refines` applies: the ring's answers are those, and the final ring satisfies `Inv` -/
theorem demo_refines :
    [(kvAt dataRing FUEL 0 "abc" (H0 "abc") (.put "new")).2, (kvAt e2 FUEL (2^48-1) "abc" (H0 "abc") .get).2,
     (kvAt e4 FUEL 3 "abcd" (H0 "abcd") .get).2] = [.unit, .value (some "new"), .value (some "w")] ∧ Inv H0 e5 :=
  have h := history_refines H0 H0_lt dataRing demoOps _ e5 demo_exec 5 dataRing_inv (sized_length _) (by decide)
  ⟨h.1.trans demo_outputs, h.2.1⟩

end Specter.C03.Refine
