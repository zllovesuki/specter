import SpecterModel.Lists
import SpecterModel.C26.Model
/-!
# C26 — Clients can only publish or remove hostnames they own, and routes point to them

Per-call theorems hold for EVERY DHT state, caller, hostname, server list and fault pattern; `reachable_inv`
is over ALL multi-client histories of generate / custom-bind / publish / unpublish / release / lease-hold
operations with arbitrary injected KV failures.
-/
namespace Specter.C26

theorem uniqAux_nodup (s : List (Option String)) (acc : List String) (h : acc.Nodup) : (uniqAux s acc).Nodup := by
  fun_induction uniqAux s acc
  case case1 => exact h
  case case2 ih => exact ih h
  case case3 ih => exact ih h
  case case4 a r acc hm ih => exact ih (nodup_snoc h hm)

theorem uniqAux_mem (s : List (Option String)) (acc : List String) (a : String) :
    a ∈ uniqAux s acc ↔ a ∈ acc ∨ some a ∈ s := by
  fun_induction uniqAux s acc
  case case1 => simp
  case case2 ih => simp [ih]
  case case3 b r acc hm ih =>
    by_cases hab : a = b
    · subst hab; simp [ih, hm]
    · simp [ih, hab]
  case case4 ih => simp [ih, or_assoc]

/-- the requested servers are de-duplicated by address and are exactly the non-nil addresses asked for. -/
theorem uniq_spec (s : List (Option String)) : (uniq s).Nodup ∧ ∀ a, a ∈ uniq s ↔ some a ∈ s := by
  refine ⟨uniqAux_nodup s [] (by simp), fun a => ?_⟩
  simpa [uniq] using uniqAux_mem s [] a

theorem destAll_spec (d : String → Option Dest) (l : List String) (ds : List Dest) (h : destAll d l = some ds) :
    ds.length = l.length ∧ ∀ i (h1 : i < l.length) (h2 : i < ds.length), d l[i] = some ds[i] := by
  fun_induction destAll d l generalizing ds
  case case1 => cases h; simp
  case case2 a r x xs hr ha ih =>
    cases h
    obtain ⟨l1, l2⟩ := ih xs hr
    refine ⟨by simp [l1], fun i h1 h2 => ?_⟩
    cases i with
    | zero => exact ha
    | succ j => exact l2 j (by simpa using h1) (by simpa using h2)
  case case3 => cases h

theorem mem_slots (k : Nat) : k ∈ slots ↔ 1 ≤ k ∧ k ≤ numLinks := by
  simp only [slots, List.mem_map, List.mem_range]
  constructor
  · rintro ⟨a, h1, rfl⟩
    exact ⟨Nat.le_add_left 1 a, h1⟩
  · exact fun h => ⟨k - 1, Nat.sub_one_lt_of_le h.1 h.2, Nat.sub_add_cancel h.1⟩

theorem setRoute_route_some {st : St} {h : String} {k : Nat} {v : Option Route} {h' : String} {k' : Nat} {r : Route}
    (hr : (setRoute st h k v).route h' k' = some r) : st.route h' k' = some r ∨ (h' = h ∧ k' = k ∧ v = some r) := by
  simp only [setRoute] at hr
  split at hr
  · next hh => exact Or.inr ⟨hh.1, hh.2, hr⟩
  · exact Or.inl hr

/-- in order: the Put jobs change `route` only; no slot outside `k … k+|ds|-1` of `h` changes; slot `k+i` holds the
route of job `i` unless its Put failed. -/
theorem putAll_spec (f : Faults) (c : Client) (h : String) (ds : List Dest) (k : Nat) (st : St) :
    (putAll f c h ds k st).1 = { st with route := (putAll f c h ds k st).1.route }
    ∧ (∀ h' k', h' ≠ h ∨ k' < k ∨ k + ds.length ≤ k' → (putAll f c h ds k st).1.route h' k' = st.route h' k')
    ∧ ∀ i (hi : i < ds.length), (putAll f c h ds k st).1.route h (k + i) =
        if f.failRoute h (k + i) = true then st.route h (k + i) else some ⟨c, ds[i].chord, ds[i].tunnel, h⟩ := by
  induction ds generalizing k st with
  | nil => exact ⟨rfl, fun _ _ _ => rfl, fun _ hi => nomatch hi⟩
  | cons d ds ih =>
    -- `st1`: the DHT after job `k`, from which the remaining jobs run
    obtain ⟨st1, e, e1, r1⟩ : ∃ st1, (putAll f c h (d :: ds) k st).1 = (putAll f c h ds (k + 1) st1).1
        ∧ st1 = { st with route := st1.route }
        ∧ ∀ h' k', st1.route h' k' = if h' = h ∧ k' = k ∧ f.failRoute h k = false
            then some ⟨c, d.chord, d.tunnel, h⟩ else st.route h' k' := by
      rw [putAll]
      by_cases hf : f.failRoute h k = true
      · exact ⟨st, by rw [if_pos hf], rfl, by simp [hf]⟩
      · exact ⟨_, by rw [if_neg hf], rfl, by simp [setRoute, hf]⟩
    obtain ⟨hf, hout, hat⟩ := ih (k + 1) st1
    rw [e]
    refine ⟨?_, fun h' k' hk => ?_, fun i hi => ?_⟩
    · rw [hf, e1]
    · rw [hout h' k' (hk.imp_right (by simp only [List.length_cons]; omega)), r1]
      exact if_neg fun hh => hk.elim (· hh.1) (by simp only [List.length_cons]; omega)
    · cases i with
      | zero =>
        simp only [Nat.add_zero, List.getElem_cons_zero, hout h k (Or.inr (Or.inl (Nat.lt_succ_self k))), r1]
        cases f.failRoute h k <;> simp
      | succ i =>
        rw [show k + (i + 1) = k + 1 + i by omega, hat i (Nat.lt_of_succ_lt_succ hi),
          (r1 h (k + 1 + i)).trans (if_neg fun hh => absurd hh.2.1 (by omega))]
        rfl

theorem delAll_eq (f : Faults) (h : String) (ks : List Nat) (st : St) :
    delAll f h ks st =
      ({ st with route := fun h' k' =>
          if h' = h ∧ k' ∈ ks ∧ f.failRoute h k' = false then none else st.route h' k' },
       ks.any (f.failRoute h)) := by
  fun_induction delAll f h ks st
  case case1 => simp
  case case2 k ks st hf st' b hd ih =>  -- the Delete fails
    cases ih.symm.trans hd
    simp only [List.any_cons, hf, Bool.true_or, List.mem_cons]
    congr 2; funext h' k'
    by_cases hk : k' = k
    · simp [hk, hf]
    · simp [hk]
  case case3 k ks st hf ih =>  -- the Delete succeeds
    rw [ih]
    simp only [List.any_cons, hf, Bool.false_or, List.mem_cons, setRoute]
    congr 2; funext h' k'
    by_cases hk : k' = k
    · by_cases hh : h' = h <;> simp [hk, hf, hh]
    · simp [hk]

/-- the tests an accepted PublishTunnel has passed; `dsts` are the destination records of its servers. -/
structure Accepted (c : Client) (h : String) (s : List (Option String)) (st : St) (dsts : List Dest) : Prop where
  owns : st.owns c.token h = true
  oneServer : 1 ≤ (uniq s).length
  atMost : (uniq s).length ≤ numLinks
  free : st.leased c.token = false
  dests : destAll st.dest (uniq s) = some dsts

theorem publish_cases (f : Faults) (c : Client) (h : String) (s : List (Option String)) (st : St) :
    (∃ o, publish f c h s st = (st, o) ∧ (o = .invalidArgument ∨ o = .internal ∨ o = .permissionDenied))
    ∨ ∃ dsts o, Accepted c h s st dsts ∧ publish f c h s st = ((putAll f c h dsts 1 st).1, o)
        ∧ (o = .unavailable ∨ ∃ p, o = .ok p) := by
  fun_cases publish f c h s st
  case case1 => exact Or.inl ⟨_, rfl, Or.inl rfl⟩  -- too many servers
  case case2 => exact Or.inl ⟨_, rfl, Or.inl rfl⟩  -- no server
  case case3 => exact Or.inl ⟨_, rfl, Or.inr (Or.inl rfl)⟩  -- lease held
  case case4 => exact Or.inl ⟨_, rfl, Or.inr (Or.inr rfl)⟩  -- not the owner
  case case5 => exact Or.inl ⟨_, rfl, Or.inr (Or.inl rfl)⟩  -- destination record missing
  case case6 h1 h2 hl ho dsts hd st' p hp _ =>  -- every Put failed
    exact Or.inr ⟨dsts, _, ⟨by simpa using ho, Nat.le_of_not_lt h2, Nat.le_of_not_gt h1, Bool.eq_false_iff.2 hl, hd⟩,
      by rw [hp], Or.inl rfl⟩
  case case7 h1 h2 hl ho dsts hd st' p hp _ =>  -- published
    exact Or.inr ⟨dsts, _, ⟨by simpa using ho, Nat.le_of_not_lt h2, Nat.le_of_not_gt h1, Bool.eq_false_iff.2 hl, hd⟩,
      by rw [hp], Or.inr ⟨_, rfl⟩⟩

/-- publishing succeeds only for a hostname registered to the calling (verified) client, with 1..3 distinct
servers, and while the caller's lease is free. -/
theorem publish_ok_requires (f : Faults) (c : Client) (h : String) (s : List (Option String)) (st : St)
    (p : List String) (hok : (publish f c h s st).2 = .ok p) :
    st.owns c.token h = true ∧ 1 ≤ (uniq s).length ∧ (uniq s).length ≤ numLinks ∧ st.leased c.token = false
    ∧ ∃ dsts, destAll st.dest (uniq s) = some dsts := by
  rcases publish_cases f c h s st with ⟨o, e, ho⟩ | ⟨dsts, _, A, _⟩
  · rw [e] at hok
    cases hok
    simp at ho
  · exact ⟨A.owns, A.oneServer, A.atMost, A.free, dsts, A.dests⟩

/-- a publish that is refused (not owner / bad server list / lease held / unknown server) changes nothing. -/
theorem publish_refused_unchanged (f : Faults) (c : Client) (h : String) (s : List (Option String)) (st : St)
    (hr : (publish f c h s st).2 = .permissionDenied ∨ (publish f c h s st).2 = .invalidArgument
          ∨ (publish f c h s st).2 = .internal) :
    (publish f c h s st).1 = st := by
  rcases publish_cases f c h s st with ⟨o, e, _⟩ | ⟨dsts, o, _, e, ho⟩
  · rw [e]
  · rw [e] at hr; rcases ho with rfl | ⟨p, rfl⟩ <;> simp at hr

theorem not_owner_denied (f : Faults) (c : Client) (h : String) (s : List (Option String)) (st : St)
    (hown : st.owns c.token h = false) : (publish f c h s st).1 = st ∧ ∀ p, (publish f c h s st).2 ≠ .ok p := by
  rcases publish_cases f c h s st with ⟨o, e, ho⟩ | ⟨_, _, A, _⟩
  · rw [e]; exact ⟨rfl, fun p hp => by cases hp; simp at ho⟩
  · exact Bool.noConfusion (hown.symm.trans A.owns)

/-- C26: after a successful publish, for each of the k ≤ 3 distinct requested servers whose Put succeeded,
slot i+1 of the hostname holds a route naming the caller's VERIFIED identity, that server's destination
record and the hostname; no other hostname's routes, no registration and no custom binding change. -/
theorem publish_routes (f : Faults) (c : Client) (h : String) (s : List (Option String)) (st : St)
    (p : List String) (hok : (publish f c h s st).2 = .ok p) :
    ∃ dsts, destAll st.dest (uniq s) = some dsts ∧ dsts.length = (uniq s).length ∧ dsts.length ≤ numLinks
      ∧ (∀ i (hi : i < dsts.length), f.failRoute h (i + 1) = false →
            (publish f c h s st).1.route h (i + 1) = some ⟨c, dsts[i].chord, dsts[i].tunnel, h⟩)
      ∧ (∀ h' k', (h' ≠ h ∨ k' < 1 ∨ dsts.length < k') → (publish f c h s st).1.route h' k' = st.route h' k')
      ∧ (publish f c h s st).1.owns = st.owns ∧ (publish f c h s st).1.custom = st.custom := by
  rcases publish_cases f c h s st with ⟨o, e, ho⟩ | ⟨dsts, o, A, e, _⟩
  · rw [e] at hok
    cases hok
    simp at ho
  · obtain ⟨hf, hout, hat⟩ := putAll_spec f c h dsts 1 st
    have hlen := (destAll_spec _ _ _ A.dests).1
    rw [e]
    refine ⟨dsts, A.dests, hlen, hlen ▸ A.atMost, fun i hi hfail => ?_, fun h' k' hk => hout h' k' (hk.imp_right (by omega)), ?_, ?_⟩
    · rw [Nat.add_comm, hat i hi, if_neg (by simp [Nat.add_comm, hfail])]
    · rw [hf]
    · rw [hf]

theorem publish_route_new (f : Faults) (c : Client) (h : String) (s : List (Option String)) (st : St)
    (h' : String) (k' : Nat) (r : Route) (hr : (publish f c h s st).1.route h' k' = some r) :
    st.route h' k' = some r
    ∨ (h' = h ∧ 1 ≤ k' ∧ k' ≤ numLinks ∧ r.client = c ∧ r.hostname = h ∧ st.owns c.token h = true) := by
  rcases publish_cases f c h s st with ⟨o, e, _⟩ | ⟨dsts, o, A, e, _⟩
  · rw [e] at hr; exact Or.inl hr
  · obtain ⟨_, hout, hat⟩ := putAll_spec f c h dsts 1 st
    have hlen := (destAll_spec _ _ _ A.dests).1
    rw [e] at hr
    by_cases hk : h' ≠ h ∨ k' < 1 ∨ 1 + dsts.length ≤ k'
    · rw [← hout h' k' hk]; exact Or.inl hr
    · obtain ⟨rfl, h1, h3⟩ : h' = h ∧ 1 ≤ k' ∧ k' < 1 + dsts.length := by
        simpa only [not_or, Decidable.not_not, Nat.not_lt, Nat.not_le] using hk
      obtain ⟨i, rfl⟩ := Nat.exists_eq_add_of_le h1
      rw [hat i (Nat.lt_of_add_lt_add_left h3)] at hr
      split at hr
      · exact Or.inl hr
      · cases hr
        exact Or.inr ⟨rfl, h1, by have := A.atMost; omega, rfl, rfl, A.owns⟩

theorem publish_owns (f : Faults) (c : Client) (h : String) (s : List (Option String)) (st : St) :
    (publish f c h s st).1.owns = st.owns := by
  rcases publish_cases f c h s st with ⟨o, e, _⟩ | ⟨dsts, o, _, e, _⟩
  · rw [e]
  · rw [e, (putAll_spec f c h dsts 1 st).1]

theorem unadvertise_eq (f : Faults) (c : Client) (h : String) (st : St) :
    unadvertise f c h st =
      if st.owns c.token h = true then
        ((delAll f h slots st).1, if (delAll f h slots st).2 = true then some .internal else none)
      else (st, some .permissionDenied) := by
  unfold unadvertise
  rcases delAll f h slots st with ⟨st', _ | _⟩ <;> cases st.owns c.token h <;> rfl

theorem unpublish_cases (f : Faults) (c : Client) (h : String) (st : St) :
    unpublish f c h st = (st, .internal)
    ∨ (st.owns c.token h = false ∧ unpublish f c h st = (st, .permissionDenied))
    ∨ (st.owns c.token h = true ∧ unpublish f c h st =
        ((delAll f h slots st).1, if (delAll f h slots st).2 = true then .internal else .ok [])) := by
  unfold unpublish
  rw [unadvertise_eq]
  cases st.leased c.token with
  | true => exact Or.inl rfl
  | false =>
    cases st.owns c.token h with
    | false => exact Or.inr (Or.inl ⟨rfl, rfl⟩)
    | true => cases (delAll f h slots st).2 <;> exact Or.inr (Or.inr ⟨rfl, rfl⟩)

/-- UnpublishTunnel, then on success PrefixRemove and the Delete of the custom binding. -/
theorem release_eq (f : Faults) (c : Client) (h : String) (st : St) :
    release f c h st =
      if (unpublish f c h st).2 = .ok [] then
        ({ (unpublish f c h st).1 with
            owns := fun t h' => if t = c.token ∧ h' = h then false else (unpublish f c h st).1.owns t h'
            custom := if f.failCustomDel h = true then (unpublish f c h st).1.custom
              else fun h' => if h' = h then none else (unpublish f c h st).1.custom h' }, .ok [])
      else unpublish f c h st := by
  unfold release unpublish
  rw [unadvertise_eq]
  cases st.leased c.token with
  | true => rfl
  | false =>
    cases st.owns c.token h with
    | false => rfl
    | true =>
      cases (delAll f h slots st).2 with
      | true => rfl
      | false => cases f.failCustomDel h <;> rfl

/-- UnpublishTunnel succeeds only for a hostname registered to the caller, and then every slot is empty; a call by
somebody else changes nothing. -/
theorem unpublish_requires_ownership (f : Faults) (c : Client) (h : String) (st : St) :
    ((unpublish f c h st).2 = .ok [] → st.owns c.token h = true ∧ ∀ k ∈ slots, (unpublish f c h st).1.route h k = none)
    ∧ (st.owns c.token h = false → (unpublish f c h st).1 = st ∧ (unpublish f c h st).2 ≠ .ok []) := by
  rcases unpublish_cases f c h st with e | ⟨ho, e⟩ | ⟨ho, e⟩ <;> rw [e]
  · simp
  · simp [ho]
  · refine ⟨fun hok => ⟨ho, fun k hk => ?_⟩, fun hn => by rw [ho] at hn; cases hn⟩
    rw [delAll_eq] at hok ⊢
    have hf : f.failRoute h k = false := by
      cases hf : f.failRoute h k
      · rfl
      · simp only [List.any_eq_true.2 ⟨k, hk, hf⟩, if_true] at hok; cases hok
    simp [hk, hf]

theorem unpublish_frame (f : Faults) (c : Client) (h : String) (st : St) :
    (unpublish f c h st).1.owns = st.owns
    ∧ ∀ h' k r, (unpublish f c h st).1.route h' k = some r → st.route h' k = some r := by
  rcases unpublish_cases f c h st with e | ⟨_, e⟩ | ⟨_, e⟩ <;> rw [e]
  · exact ⟨rfl, fun _ _ _ hr => hr⟩
  · exact ⟨rfl, fun _ _ _ hr => hr⟩
  · rw [delAll_eq]
    refine ⟨rfl, fun h' k r hr => ?_⟩
    simp only at hr
    split at hr
    · cases hr
    · exact hr

theorem release_route (f : Faults) (c : Client) (h : String) (st : St) :
    (release f c h st).1.route = (unpublish f c h st).1.route := by
  rw [release_eq]
  by_cases hok : (unpublish f c h st).2 = .ok []
  · rw [if_pos hok]
  · rw [if_neg hok]

theorem release_requires_ownership (f : Faults) (c : Client) (h : String) (st : St)
    (ho : st.owns c.token h = false) : (release f c h st).1 = st ∧ (release f c h st).2 ≠ .ok [] := by
  have hu := (unpublish_requires_ownership f c h st).2 ho
  rw [release_eq, if_neg hu.2]
  exact hu

/-- C26: a successful release removes the hostname's routes (all slots), its registration under the caller,
and (unless that Delete failed) its custom-hostname binding. -/
theorem release_removes (f : Faults) (c : Client) (h : String) (st : St) (hok : (release f c h st).2 = .ok []) :
    st.owns c.token h = true
    ∧ (∀ k ∈ slots, (release f c h st).1.route h k = none)
    ∧ (release f c h st).1.owns c.token h = false
    ∧ (f.failCustomDel h = false → (release f c h st).1.custom h = none) := by
  have hu : (unpublish f c h st).2 = .ok [] := by
    rw [release_eq] at hok
    exact Decidable.byContradiction fun hn => hn (by rwa [if_neg hn] at hok)
  obtain ⟨ho, hcl⟩ := (unpublish_requires_ownership f c h st).1 hu
  refine ⟨ho, by rwa [release_route], ?_, fun hc => ?_⟩
  · rw [release_eq, if_pos hu]; exact if_pos ⟨rfl, rfl⟩
  · rw [release_eq, if_pos hu]; simp [hc]

/-- every stored route sits in slot 1..3 of its own hostname and names a client to whom that hostname is
currently registered. -/
def Inv (st : St) : Prop :=
  ∀ h k r, st.route h k = some r → r.hostname = h ∧ 1 ≤ k ∧ k ≤ numLinks ∧ st.owns r.client.token h = true

theorem inv_init (d : String → Option Dest) : Inv (init d) := by
  intro h k r hr; cases hr

theorem step_route_new (st : St) (op : Op) (h : String) (k : Nat) (r : Route)
    (hr : (step st op).1.route h k = some r) :
    st.route h k = some r
    ∨ ((∃ f s, op = .publish f r.client h s) ∧ r.hostname = h ∧ 1 ≤ k ∧ k ≤ numLinks ∧ st.owns r.client.token h = true) := by
  cases op with
  | generate c h0 =>
    left
    revert hr
    simp only [step]
    fun_cases generate c h0 st <;> exact id
  | bindCustom | hold => exact Or.inl hr
  | publish f c h0 s =>
    rcases publish_route_new f c h0 s st h k r hr with hold | ⟨rfl, h1, h2, rfl, hh, ho⟩
    · exact Or.inl hold
    · exact Or.inr ⟨⟨f, s, rfl⟩, hh, h1, h2, ho⟩
  | unpublish f c h0 => exact Or.inl ((unpublish_frame f c h0 st).2 h k r hr)
  | release f c h0 =>
    refine Or.inl ((unpublish_frame f c h0 st).2 h k r ?_)
    rw [← release_route]; exact hr

theorem step_owns (st : St) (op : Op) (t h : String) (ho : st.owns t h = true) :
    (step st op).1.owns t h = true ∨ ∀ k ∈ slots, (step st op).1.route h k = none := by
  cases op with
  | generate c h0 =>
    left
    simp only [step]
    fun_cases generate c h0 st
    · exact ho
    · simp [ho]
  | bindCustom c h0 => exact Or.inl (by simp [step, bindCustom, ho])
  | hold _ _ => exact Or.inl ho
  | publish f c h0 s => exact Or.inl (by rw [step, publish_owns]; exact ho)
  | unpublish f c h0 => exact Or.inl (by rw [step, (unpublish_frame f c h0 st).1]; exact ho)
  | release f c h0 =>
    rw [step, release_eq]
    by_cases hok : (unpublish f c h0 st).2 = .ok []
    · rw [if_pos hok]
      by_cases hh : h = h0
      · exact Or.inr (hh ▸ ((unpublish_requires_ownership f c h0 st).1 hok).2)
      · exact Or.inl (by simp [hh, (unpublish_frame f c h0 st).1, ho])
    · rw [if_neg hok]
      exact Or.inl (by rw [(unpublish_frame f c h0 st).1]; exact ho)

theorem inv_step (st : St) (op : Op) (hi : Inv st) : Inv (step st op).1 := by
  intro h k r hr
  -- the route is old or was just published for an owner; that registration goes only with every route of `h`
  have ⟨a, b, c, d⟩ : r.hostname = h ∧ 1 ≤ k ∧ k ≤ numLinks ∧ st.owns r.client.token h = true :=
    (step_route_new st op h k r hr).elim (hi h k r) (·.2)
  refine ⟨a, b, c, (step_owns st op _ _ d).resolve_right fun hcl => ?_⟩
  rw [hcl k ((mem_slots k).2 ⟨b, c⟩)] at hr
  cases hr

theorem run_inv (st : St) (ops : List Op) (hi : Inv st) : Inv (run st ops) :=
  List.foldlRecOn ops _ hi fun st hi op _ => inv_step st op hi

/-- C26 over all histories: whatever sequence of operations by any number of clients (with any injected KV
failures) is executed from the empty DHT, every stored route names a client that owns the hostname. -/
theorem reachable_inv (d : String → Option Dest) (ops : List Op) : Inv (run (init d) ops) :=
  run_inv _ ops (inv_init d)

theorem numLinks_eq : numLinks = 3 := by decide

/-! ## spoofed identities: the identity a peer CLAIMS on the stream never reaches the DHT -/

/-- whatever identity the peer claims on the stream (none, its own, another client's, its own Id with another
client's Address, …), the call has the same outcome and the same effect on the DHT. -/
theorem claim_ignored (st : St) (r : Req) (cl : Option Ident) : stepReq st (r.withClaim cl) = stepReq st r := by
  cases r <;> rfl

theorem runReq_eq (st : St) (rs : List Req) : runReq st rs = run st (rs.map Req.op) :=
  (List.foldl_map (f := Req.op) (g := fun s o => (step s o).1)).symm

theorem publish_route_origin (f : Faults) (c : Client) (h : String) (s : List (Option String)) (st : St)
    (h' : String) (k' : Nat) (r : Route) (hr : (publish f c h s st).1.route h' k' = some r) :
    st.route h' k' = some r ∨ (h' = h ∧ r.client = c ∧ r.hostname = h) :=
  (publish_route_new f c h s st h' k' r hr).imp_right fun ⟨a, _, _, b, e, _⟩ => ⟨a, b, e⟩

/-- no call but a publish creates a route, and a publish creates only routes of its hostname naming its caller. -/
theorem step_route_origin (st : St) (op : Op) (h : String) (k : Nat) (r : Route)
    (hr : (step st op).1.route h k = some r) :
    st.route h k = some r ∨ ∃ f s, op = .publish f r.client h s :=
  (step_route_new st op h k r hr).imp_right (·.1)

/-- C26, spoofed identities in requests: a successful PublishTunnel of a caller whose certificate names
`who.verified` — WHATEVER identity `who.claimed` it claims on the stream — was made by the owner of the hostname,
stores routes whose ClientDestination is the certificate identity (Id, Address = token, Rendezvous), and every
route that is new afterwards names the certificate identity. -/
theorem publish_names_verified (f : Faults) (who : Caller) (h : String) (s : List (Option String)) (st : St)
    (p : List String) (hok : (stepReq st (.publish f who h s)).2 = .ok p) :
    st.owns who.verified.token h = true
    ∧ (∃ dsts, destAll st.dest (uniq s) = some dsts ∧ dsts.length = (uniq s).length ∧
        ∀ i (hi : i < dsts.length), f.failRoute h (i + 1) = false →
          ∃ r, (stepReq st (.publish f who h s)).1.route h (i + 1) = some r
            ∧ r.client = who.verified ∧ r.client.node = ⟨who.verified.id, who.verified.token, true⟩
            ∧ r.chord = dsts[i].chord ∧ r.tunnel = dsts[i].tunnel ∧ r.hostname = h)
    ∧ (∀ h' k' r, (stepReq st (.publish f who h s)).1.route h' k' = some r → st.route h' k' ≠ some r →
          h' = h ∧ r.client = who.verified ∧ r.client.node = ⟨who.verified.id, who.verified.token, true⟩) := by
  obtain ⟨dsts, h5, hlen, _, hat, _⟩ := publish_routes f who.verified h s st p hok
  refine ⟨(publish_ok_requires f who.verified h s st p hok).1, ⟨dsts, h5, hlen, fun i hi hf => ?_⟩, fun h' k' r hr hne => ?_⟩
  · exact ⟨_, hat i hi hf, rfl, rfl, rfl, rfl, rfl⟩
  · rcases publish_route_origin f who.verified h s st h' k' r hr with h0 | ⟨a, b, _⟩
    · exact absurd h0 hne
    · exact ⟨a, b, by rw [b]; rfl⟩

theorem runReq_route_origin (st : St) (rs : List Req) (h : String) (k : Nat) (r : Route)
    (hr : (runReq st rs).route h k = some r) :
    st.route h k = some r ∨ ∃ f who s, Req.publish f who h s ∈ rs ∧ who.verified = r.client := by
  refine List.foldlRecOn (motive := fun s : St => s.route h k = some r → _) rs _ Or.inl (fun s ih q hq hs => ?_) hr
  rcases step_route_origin s q.op h k r hs with h0 | ⟨_, _, e⟩
  · exact ih h0
  · cases q with
    | publish f0 who h0 s0 =>
      injection e with _ hc hh _
      exact Or.inr ⟨f0, who, s0, hh ▸ hq, hc⟩
    | _ => cases e

/-- C26 over ALL histories of requests carrying arbitrary claimed identities: the invariant of `reachable_inv`
holds, and every stored route names the CERTIFICATE identity of a publish request of the history for that very
hostname — an identity that was only claimed on a stream never ends up in a route. -/
theorem routes_name_verified (d : String → Option Dest) (rs : List Req) :
    Inv (runReq (init d) rs)
    ∧ ∀ h k r, (runReq (init d) rs).route h k = some r →
        ∃ f who s, Req.publish f who h s ∈ rs ∧ who.verified = r.client := by
  refine ⟨by rw [runReq_eq]; exact reachable_inv d _, fun h k r hr => ?_⟩
  exact (runReq_route_origin (init d) rs h k r hr).resolve_left fun h0 => nomatch h0

/-! ## non-vacuity -/

private def d0 : String → Option Dest
  | "s1" => some ⟨"c1", "s1"⟩ | "s2" => some ⟨"c2", "s2"⟩ | _ => none
private def alice : Client := ⟨"alice", 1⟩
private def bob : Client := ⟨"bob", 2⟩
private def stA : St := (generate alice "h" (init d0)).1

example : (publish {} alice "h" [some "s1", none, some "s1", some "s2"] stA).2 = .ok ["s1", "s2"] := by decide +kernel
example : (publish {} alice "h" [some "s1", some "s2"] stA).1.route "h" 2 = some ⟨alice, "c2", "s2", "h"⟩ := by decide +kernel
example : (publish {} bob "h" [some "s1"] stA).2 = .permissionDenied := by decide +kernel
example : (publish {} alice "h" [some "s1", some "s2", some "s3", some "s4"] stA).2 = .invalidArgument := by decide +kernel
example : (release {} alice "h" (publish {} alice "h" [some "s1"] stA).1).2 = .ok [] := by decide +kernel
example : (release {} bob "h" stA).2 = .permissionDenied := by decide +kernel
example : (publish { failRoute := fun _ k => k == 1 } alice "h" [some "s1", some "s2"] stA).2 = .ok ["s2"] := by decide +kernel

-- spoofed stream identity: alice's certificate, alice's Id, bob's Address claimed on the stream
private def spoof : Caller := ⟨alice, some ⟨1, "bob", true⟩⟩
example : (stepReq stA (.publish {} spoof "h" [some "s1", some "s2"])).2 = .ok ["s1", "s2"] := by decide +kernel
example : ((stepReq stA (.publish {} spoof "h" [some "s1"])).1.route "h" 1).map (·.client.node) = some ⟨1, "alice", true⟩ := by decide +kernel
example : (stepReq stA (.publish {} ⟨bob, some ⟨1, "alice", true⟩⟩ "h" [some "s1"])).2 = .permissionDenied := by decide +kernel
example : (Req.publish {} spoof "h" [some "s1"]).withClaim none = .publish {} ⟨alice, none⟩ "h" [some "s1"] := rfl
example : (runReq (init d0) [.generate spoof "h", .publish {} spoof "h" [some "s2"]]).route "h" 1 = some ⟨alice, "c2", "s2", "h"⟩ := by decide +kernel

end Specter.C26
