import SpecterModel.C26.Conc
import SpecterModel.C26.Props
/-!
# C26 under concurrency — the per-client lease makes (ownership check, route writes) atomic

Over ALL pools of concurrent publish / unpublish / release requests (any clients, hostnames, server lists, injected
KV failures) and ALL schedules at KV-call granularity (`crun`), starting from any DHT in which every route names an
owner. `LStep` is what one KV call of a request does as far as the other requests can tell: every step of `tstep` is
one, and any one keeps the invariant `CInv` of the configuration, which the results at the end of the file project.
-/
namespace Specter.C26

/-- the request holds its client's lease: from its successful Acquire until its lease Release. -/
def Pc.inside : Pc → Bool
  | .acquire => false
  | .done _ => false
  | _ => true

/-- a publish request after its ownership check, while it may still write routes. -/
def Pc.checked : Pc → Bool
  | .lookups _ _ _ => true
  | .puts _ _ => true
  | _ => false

def Out.isOk : Out → Bool
  | .ok _ => true
  | _ => false

/-- the request has passed its ownership check and has not failed since. -/
def Pc.passed : Pc → Bool
  | .lookups _ _ _ => true
  | .puts _ _ => true
  | .dels _ _ => true
  | .unregister => true
  | .uncustom => true
  | .unlock o => o.isOk
  | .done o => o.isOk
  | _ => false

/-- job indices stay below `numLinks` (the server list was validated when the request entered). -/
def WF (t : Thread) : Prop :=
  match t.pc with
  | .acquire => t.req.length ≤ numLinks
  | .contains => t.req.length ≤ numLinks
  | .lookups p got _ => (∀ x ∈ p, x.2 < numLinks) ∧ (∀ x ∈ got, x.1 < numLinks)
  | .puts p _ => ∀ x ∈ p, x.1 < numLinks
  | _ => True

/-- the slots an unpublish/release request has already deleted hold no route of its own client. -/
def Cleared (st : St) (t : Thread) : Prop :=
  match t.pc with
  | .dels p failed => failed = false → ∀ k ∈ slots, k ∉ p → ∀ r, st.route t.h k = some r → r.client.token ≠ t.c.token
  | .unregister => ∀ k r, st.route t.h k = some r → r.client.token ≠ t.c.token
  | _ => True

/-- what one KV call of one request does to the DHT and to the request, as far as the other requests can tell.
For `CInv`: `leaseIn`, `checked`, `wf`, `cleared`, `passed` re-establish the clauses of the request that steps;
`leaseEnter` gives `mutex`, `leaseOther` / `leaseKeep` the other requests' `leased`, `ownsMono` gives `mono`,
`routes` and `ownsLost` give `inv` and the other requests' `checked` and `cleared`. -/
structure LStep (st : St) (t : Thread) (st' : St) (t' : Thread) : Prop where
  same : t'.c = t.c ∧ t'.h = t.h
  leaseOther : ∀ x, x ≠ t.c.token → st'.leased x = st.leased x
  leaseIn : t'.pc.inside = true → st'.leased t.c.token = true
  leaseEnter : t.pc.inside = false → t'.pc.inside = true → st.leased t.c.token = false
  leaseKeep : t.pc.inside = false → st.leased t.c.token = true → st'.leased t.c.token = true
  ownsMono : ∀ x y, st'.owns x y = true → st.owns x y = true
  ownsLost : ∀ x y, st.owns x y = true → st'.owns x y = false →
      x = t.c.token ∧ y = t.h ∧ t.pc.inside = true ∧ t.pc.checked = false
      ∧ ∀ k r, st.route y k = some r → r.client.token ≠ x
  routes : ∀ h k r, st'.route h k = some r → st.route h k = some r ∨
      (h = t.h ∧ 1 ≤ k ∧ k ≤ numLinks ∧ r.client = t.c ∧ r.hostname = t.h ∧ t.pc.checked = true)
  checked : t'.pc.checked = true → st'.owns t.c.token t.h = true
  wf : WF t'
  cleared : Cleared st' t'
  passed : t'.pc.passed = true → t.pc.passed = true ∨ st.owns t.c.token t.h = true

/-- a call that leaves leases and registrations alone and adds only routes the request may write. `LStep` does not
mention `custom`, so the Delete of the custom binding is such a call. -/
theorem lstep_frame {st st' : St} {t : Thread} (pc' : Pc) (hlease : st'.leased = st.leased) (hown : st'.owns = st.owns)
    (hr : ∀ h k r, st'.route h k = some r → st.route h k = some r ∨
      (h = t.h ∧ 1 ≤ k ∧ k ≤ numLinks ∧ r.client = t.c ∧ r.hostname = t.h ∧ t.pc.checked = true))
    (hin : pc'.inside = true → t.pc.inside = true) (hle : t.pc.inside = true → st.leased t.c.token = true)
    (hwc : WF { t with pc := pc' } ∧ Cleared st' { t with pc := pc' })
    (hch : pc'.checked = false ∨ st.owns t.c.token t.h = true)
    (hpa : pc'.passed = true → t.pc.passed = true ∨ st.owns t.c.token t.h = true) :
    LStep st t st' { t with pc := pc' } where
  same := ⟨rfl, rfl⟩
  leaseOther := fun _ _ => by rw [hlease]
  leaseIn := fun h => by rw [hlease]; exact hle (hin h)
  leaseEnter := fun h1 h2 => by rw [hin h2] at h1; cases h1
  leaseKeep := fun _ h => by rw [hlease]; exact h
  ownsMono := fun _ _ h => by rw [← hown]; exact h
  ownsLost := fun x y h1 h2 => by rw [hown, h1] at h2; cases h2
  routes := hr
  checked := fun h => by rw [hown]; exact hch.resolve_left (by rw [h]; exact Bool.noConfusion)
  wf := hwc.1
  cleared := hwc.2
  passed := hpa

theorem lstep_read {st : St} {t : Thread} (pc' : Pc)
    (hin : pc'.inside = true → t.pc.inside = true) (hle : t.pc.inside = true → st.leased t.c.token = true)
    (hwc : WF { t with pc := pc' } ∧ Cleared st { t with pc := pc' })
    (hch : pc'.checked = false ∨ st.owns t.c.token t.h = true)
    (hpa : pc'.passed = true → t.pc.passed = true ∨ st.owns t.c.token t.h = true) :
    LStep st t st { t with pc := pc' } :=
  lstep_frame pc' rfl rfl (fun _ _ _ h => Or.inl h) hin hle hwc hch hpa

/-- Acquire (`b = true`) and the lease Release (`b = false`): the lease follows the request across `inside`. -/
theorem lstep_lease {st : St} {t : Thread} (b : Bool) (pc' : Pc) (hb : pc'.inside = b) (ht : t.pc.inside = !b)
    (hfree : b = true → st.leased t.c.token = false)
    (hwc : WF { t with pc := pc' } ∧ Cleared st { t with pc := pc' }) (hch : pc'.checked = false)
    (hpa : pc'.passed = true → t.pc.passed = true ∨ st.owns t.c.token t.h = true) :
    LStep st t (setLease st t.c.token b) { t with pc := pc' } where
  same := ⟨rfl, rfl⟩
  leaseOther := fun _ hx => if_neg hx
  leaseIn := fun h => (if_pos rfl).trans (hb.symm.trans h)
  leaseEnter := fun _ h => hfree (hb.symm.trans h)
  leaseKeep := fun h1 _ => by
    cases b
    · exact Bool.noConfusion (h1.symm.trans ht)
    · exact if_pos rfl
  ownsMono := fun _ _ h => h
  ownsLost := fun _ _ h1 h2 => Bool.noConfusion (h1.symm.trans h2)
  routes := fun _ _ _ h => Or.inl h
  checked := fun h => Bool.noConfusion (hch.symm.trans h)
  wf := hwc.1
  cleared := hwc.2
  passed := hpa

theorem passed_done_unlock (o : Out) : Pc.passed (.done o) = Pc.passed (.unlock o) := rfl

theorem afterPuts_shape (n : Nat) (res : List (Nat × String)) : ∃ o, afterPuts n res = .unlock o := by
  fun_cases afterPuts n res <;> exact ⟨_, rfl⟩

theorem afterLookups_shape (n : Nat) (got : List (Nat × Dest)) (miss : Bool) :
    afterLookups n got miss = .puts got [] ∨ ∃ o, afterLookups n got miss = .unlock o := by
  cases miss with
  | true => exact Or.inr ⟨_, rfl⟩
  | false =>
    cases got with
    | nil => exact Or.inr (afterPuts_shape n [])
    | cons _ _ => exact Or.inl rfl

theorem afterDels_shape (kd : Kind) (failed : Bool) :
    (afterDels kd failed = .unregister ∧ failed = false) ∨ ∃ o, afterDels kd failed = .unlock o := by
  cases failed with
  | true => exact Or.inr ⟨_, rfl⟩
  | false =>
    cases kd with
    | release => exact Or.inl ⟨rfl, rfl⟩
    | _ => exact Or.inr ⟨_, rfl⟩

theorem next_lookups {kd : Kind} {f : Faults} {c : Client} {h : String} {n : Nat} {rest : List (String × Nat)}
    {got : List (Nat × Dest)} {miss : Bool} (hp : ∀ x ∈ rest, x.2 < numLinks) (hg : ∀ x ∈ got, x.1 < numLinks) (st : St) :
    WF ⟨kd, f, c, h, if rest.isEmpty then afterLookups n got miss else .lookups rest got miss⟩
    ∧ Cleared st ⟨kd, f, c, h, if rest.isEmpty then afterLookups n got miss else .lookups rest got miss⟩ := by
  split
  · rcases afterLookups_shape n got miss with e | ⟨o, e⟩ <;> rw [e]
    · exact ⟨hg, trivial⟩
    · exact ⟨trivial, trivial⟩
  · exact ⟨⟨hp, hg⟩, trivial⟩

theorem next_puts {kd : Kind} {f : Faults} {c : Client} {h : String} {n : Nat} {rest : List (Nat × Dest)}
    {res : List (Nat × String)} (hp : ∀ x ∈ rest, x.1 < numLinks) (st : St) :
    WF ⟨kd, f, c, h, if rest.isEmpty then afterPuts n res else .puts rest res⟩
    ∧ Cleared st ⟨kd, f, c, h, if rest.isEmpty then afterPuts n res else .puts rest res⟩ := by
  split
  · obtain ⟨o, e⟩ := afterPuts_shape n res
    rw [e]
    exact ⟨trivial, trivial⟩
  · exact ⟨hp, trivial⟩

/-- after the last Delete "every slot is free of the client's routes" is "no route of `h` names the client":
by `Inv` routes sit in `slots` only. -/
theorem next_dels {st : St} {kd : Kind} {f : Faults} {c : Client} {h : String} {rest : List Nat} {failed : Bool}
    (hinv : Inv st)
    (hP : failed = false → ∀ k ∈ slots, k ∉ rest → ∀ r, st.route h k = some r → r.client.token ≠ c.token) :
    WF ⟨kd, f, c, h, if rest.isEmpty then afterDels kd failed else .dels rest failed⟩
    ∧ Cleared st ⟨kd, f, c, h, if rest.isEmpty then afterDels kd failed else .dels rest failed⟩ := by
  split
  · next he =>
    rcases afterDels_shape kd failed with ⟨e, hf⟩ | ⟨o, e⟩ <;> rw [e]
    · refine ⟨trivial, fun k r hr => ?_⟩
      obtain ⟨_, h1, h2, _⟩ := hinv _ _ _ hr
      exact hP hf k ((mem_slots k).2 ⟨h1, h2⟩) (by simp [List.isEmpty_iff.1 he]) r hr
    · exact ⟨trivial, trivial⟩
  · exact ⟨trivial, hP⟩

theorem next_dels_unchecked (kd : Kind) (rest : List Nat) (failed : Bool) :
    (if rest.isEmpty then afterDels kd failed else .dels rest failed).checked = false := by
  split
  · rcases afterDels_shape kd failed with ⟨e, _⟩ | ⟨o, e⟩ <;> rw [e] <;> rfl
  · rfl

theorem inside_afterContains (t : Thread) : (afterContains t).inside = true := by
  fun_cases afterContains t
  · fun_cases enterLookups t.req <;> rfl
  · fun_cases enterDels t.kind
    · cases t.kind <;> rfl
    · rfl

theorem passed_afterContains_or (t : Thread) (b : Prop) (hb : b) :
    (afterContains t).passed = true → t.pc.passed = true ∨ b := fun _ => Or.inr hb

theorem next_contains {st : St} {kd : Kind} {f : Faults} {c : Client} {h : String} {pc : Pc} (hinv : Inv st)
    (hl : (Thread.mk kd f c h pc).req.length ≤ numLinks) :
    WF ⟨kd, f, c, h, afterContains ⟨kd, f, c, h, pc⟩⟩ ∧ Cleared st ⟨kd, f, c, h, afterContains ⟨kd, f, c, h, pc⟩⟩ := by
  fun_cases afterContains ⟨kd, f, c, h, pc⟩
  · fun_cases enterLookups (Thread.mk kd f c h pc).req
    · exact ⟨trivial, trivial⟩
    · refine ⟨⟨fun x hx => ?_, fun _ hx => nomatch hx⟩, trivial⟩
      have := List.snd_lt_of_mem_zipIdx hx
      omega
  · exact next_dels (rest := slots) hinv (fun _ k hk hn => absurd hk hn)

theorem tstep_lstep (st : St) (t : Thread) (j : Nat) (hinv : Inv st) (hwf : WF t) (hcl : Cleared st t)
    (hle : t.pc.inside = true → st.leased t.c.token = true)
    (hch : t.pc.checked = true → st.owns t.c.token t.h = true) :
    LStep st t (tstep st t j).1 (tstep st t j).2.1 := by
  have hrefl : LStep st t st t :=
    lstep_read t.pc id hle ⟨hwf, hcl⟩ ((Bool.eq_false_or_eq_true _).symm.imp_right hch) Or.inl
  rcases t with ⟨kind, f, c, h, pc⟩
  fun_cases tstep st ⟨kind, f, c, h, pc⟩ j
  -- nothing happens: the request has returned (1), `j ≠ 0` where only one call is possible (2, 5, 17, 19, 22),
  -- no `j`-th pending job (8, 11, 14)
  case case1 | case2 | case5 | case8 | case11 | case14 | case17 | case19 | case22 => exact hrefl
  case case3 hpc _ _ =>  -- Acquire: lease held
    subst hpc
    exact lstep_read (.done .internal) (fun hc => nomatch hc) hle ⟨trivial, trivial⟩ (.inl rfl) (fun hc => nomatch hc)
  case case4 hpc _ hl =>  -- Acquire
    subst hpc
    exact lstep_lease true .contains rfl rfl (fun _ => Bool.eq_false_iff.2 hl) ⟨hwf, trivial⟩ rfl (fun hp => nomatch hp)
  case case6 hpc _ ho =>  -- PrefixContains: registered
    subst hpc
    exact lstep_read _ (fun _ => rfl) hle (next_contains hinv hwf) (.inr ho) (fun _ => Or.inr ho)
  case case7 hpc _ _ =>  -- PrefixContains: not registered
    subst hpc
    exact lstep_read (.unlock .permissionDenied) (fun _ => rfl) hle ⟨trivial, trivial⟩ (.inl rfl) (fun hp => nomatch hp)
  case case9 pending got miss hpc a i hp rest d _ _ =>  -- Get: found
    subst hpc
    have hrest : ∀ x ∈ rest, x.2 < numLinks := fun x hx => hwf.1 x (List.mem_of_mem_eraseIdx hx)
    have hg : ∀ x ∈ got ++ [(i, d)], x.1 < numLinks :=
      List.forall_mem_append.2 ⟨hwf.2, List.forall_mem_singleton.2 (hwf.1 _ (List.mem_of_getElem? hp))⟩
    exact lstep_read _ (fun _ => rfl) hle (next_lookups hrest hg st) (.inr (hch rfl)) (fun _ => Or.inl rfl)
  case case10 pending got miss hpc a i hp rest _ =>  -- Get: missing
    subst hpc
    have hrest : ∀ x ∈ rest, x.2 < numLinks := fun x hx => hwf.1 x (List.mem_of_mem_eraseIdx hx)
    exact lstep_read _ (fun _ => rfl) hle (next_lookups hrest hwf.2 st) (.inr (hch rfl)) (fun _ => Or.inl rfl)
  case case12 pending res hpc i d hp rest _ =>  -- Put fails
    subst hpc
    have hrest : ∀ x ∈ rest, x.1 < numLinks := fun x hx => hwf x (List.mem_of_mem_eraseIdx hx)
    exact lstep_read _ (fun _ => rfl) hle (next_puts hrest st) (.inr (hch rfl)) (fun _ => Or.inl rfl)
  case case13 pending res hpc i d hp rest _ _ =>  -- Put
    subst hpc
    have hi : i < numLinks := hwf _ (List.mem_of_getElem? hp)
    have hrest : ∀ x ∈ rest, x.1 < numLinks := fun x hx => hwf x (List.mem_of_mem_eraseIdx hx)
    refine lstep_frame _ rfl rfl (fun h' k r hr => ?_) (fun _ => rfl) hle (next_puts hrest _) (.inr (hch rfl))
      (fun _ => Or.inl rfl)
    refine (setRoute_route_some hr).imp_right fun ⟨e1, e2, e3⟩ => ?_
    cases e3
    exact ⟨e1, e2 ▸ Nat.le_add_left 1 i, e2 ▸ hi, rfl, rfl, rfl⟩
  case case15 pending failed hpc k0 hp rest _ =>  -- Delete fails
    subst hpc
    exact lstep_read _ (fun _ => rfl) hle (next_dels hinv (fun hc => nomatch hc)) (.inl (next_dels_unchecked ..))
      (fun _ => Or.inl rfl)
  case case16 pending failed hpc k0 hp rest _ =>  -- Delete
    subst hpc
    have hroutes : ∀ h' k r, (setRoute st h k0 none).route h' k = some r → st.route h' k = some r :=
      fun h' k r hr => (setRoute_route_some hr).resolve_right fun ⟨_, _, e⟩ => nomatch e
    -- a slot that is no longer pending is `k0` (just deleted) or was not pending before
    have hP : failed = false → ∀ k ∈ slots, k ∉ rest → ∀ r,
        (setRoute st h k0 none).route h k = some r → r.client.token ≠ c.token := by
      intro hfl k hk hnr r hr
      by_cases hk0 : k = k0
      · rw [hk0] at hr; simp [setRoute] at hr
      · refine hcl hfl k hk (fun hmem => hnr ?_) r (hroutes h k r hr)
        obtain ⟨i', hget⟩ := List.mem_iff_getElem?.1 hmem
        exact List.mem_eraseIdx_iff_getElem?.2 ⟨i', fun hij => hk0 (Option.some.inj ((hij ▸ hget).symm.trans hp)), hget⟩
    exact lstep_frame _ rfl rfl (fun h' k r hr => Or.inl (hroutes h' k r hr)) (fun _ => rfl) hle
      (next_dels (fun h' k r hr => hinv h' k r (hroutes h' k r hr)) hP) (.inl (next_dels_unchecked ..))
      (fun _ => Or.inl rfl)
  case case18 hpc _ =>  -- PrefixRemove
    subst hpc
    exact {
      same := ⟨rfl, rfl⟩
      leaseOther := fun _ _ => rfl
      leaseIn := fun _ => hle rfl
      leaseEnter := fun h1 _ => nomatch h1
      leaseKeep := fun _ hx => hx
      ownsMono := fun x y hx => by
        simp only at hx
        split at hx
        · cases hx
        · exact hx
      ownsLost := fun x y h1 h2 => by
        simp only at h2
        split at h2
        · next hxy => rw [hxy.1, hxy.2]; exact ⟨rfl, rfl, rfl, rfl, hcl⟩
        · rw [h1] at h2; cases h2
      routes := fun _ _ _ hr => Or.inl hr
      checked := fun hc => nomatch hc
      wf := trivial
      cleared := trivial
      passed := fun _ => Or.inl rfl }
  case case20 hpc _ _ =>  -- Delete(custom) fails
    subst hpc
    exact lstep_read (.unlock (.ok [])) (fun _ => rfl) hle ⟨trivial, trivial⟩ (.inl rfl) (fun _ => Or.inl rfl)
  case case21 hpc _ _ =>  -- Delete(custom)
    subst hpc
    exact lstep_frame (.unlock (.ok [])) rfl rfl (fun _ _ _ hr => Or.inl hr) (fun _ => rfl) hle ⟨trivial, trivial⟩
      (.inl rfl) (fun _ => Or.inl rfl)
  case case23 out hpc _ =>  -- lease Release
    subst hpc
    exact lstep_lease false (.done out) rfl rfl (fun hb => nomatch hb) ⟨trivial, trivial⟩ rfl Or.inl

theorem inside_of_checked (pc : Pc) (h : pc.checked = true) : pc.inside = true := by
  cases pc with
  | lookups | puts => rfl
  | _ => cases h

/-- `st0` = the DHT when the requests entered: nothing registers a hostname inside the pool (`mono`), so a request past
its ownership check found the hostname registered to its client already in `st0` (`passed`). -/
structure CInv (st0 : St) (cfg : Cfg) : Prop where
  inv : Inv cfg.st
  mutex : ∀ a b, (cfg.ts a).pc.inside = true → (cfg.ts b).pc.inside = true →
      (cfg.ts a).c.token = (cfg.ts b).c.token → a = b
  leased : ∀ a, (cfg.ts a).pc.inside = true → cfg.st.leased (cfg.ts a).c.token = true
  checked : ∀ a, (cfg.ts a).pc.checked = true → cfg.st.owns (cfg.ts a).c.token (cfg.ts a).h = true
  wf : ∀ a, WF (cfg.ts a)
  cleared : ∀ a, Cleared cfg.st (cfg.ts a)
  mono : ∀ x y, cfg.st.owns x y = true → st0.owns x y = true
  passed : ∀ a, (cfg.ts a).pc.passed = true → st0.owns (cfg.ts a).c.token (cfg.ts a).h = true

theorem LStep.bystander {st st' : St} {t t' : Thread} (L : LStep st t st' t') (u : Thread)
    (hex : u.pc.inside = true → t.pc.inside = true → u.c.token ≠ t.c.token)
    (hl : u.pc.inside = true → st.leased u.c.token = true) :
    (u.pc.inside = true → t'.pc.inside = true → u.c.token ≠ t.c.token)
    ∧ (u.pc.inside = true → st'.leased u.c.token = true)
    ∧ (u.pc.checked = true → st.owns u.c.token u.h = true → st'.owns u.c.token u.h = true)
    ∧ (Cleared st u → Cleared st' u) := by
  refine ⟨fun hu ht' htok => ?_, fun hu => ?_, fun hu ho => ?_, fun hc => ?_⟩
  · -- a request that enters found the lease free, while `u` inside holds its client's lease
    by_cases hin : t.pc.inside = true
    · exact hex hu hin htok
    · have := hl hu
      rw [htok, L.leaseEnter (by simpa using hin) ht'] at this
      cases this
  · by_cases htok : u.c.token = t.c.token
    · rw [htok]
      by_cases hin : t.pc.inside = true
      · exact absurd htok (hex hu hin)
      · exact L.leaseKeep (by simpa using hin) (htok ▸ hl hu)
    · rw [L.leaseOther _ htok]; exact hl hu
  · cases hs : st'.owns u.c.token u.h with
    | true => rfl
    | false =>
      obtain ⟨h1, _, h3, _⟩ := L.ownsLost _ _ ho hs
      exact absurd h1 (hex (inside_of_checked _ hu) h3)
  · -- a route written by this call names the calling client, whose lease `u` does not hold
    have other : u.pc.inside = true → ∀ k r, st'.route u.h k = some r →
        (st.route u.h k = some r → r.client.token ≠ u.c.token) → r.client.token ≠ u.c.token := by
      intro hin k r hr hold
      rcases L.routes _ k r hr with h1 | ⟨_, _, _, e4, _, e6⟩
      · exact hold h1
      · intro heq; rw [e4] at heq; exact hex hin (inside_of_checked _ e6) heq.symm
    rcases u with ⟨kd, f, c, h, pc⟩
    cases pc with
    | dels p failed => exact fun hf k hk hnp r hr => other rfl k r hr (hc hf k hk hnp r)
    | unregister => exact fun k r hr => other rfl k r hr (hc k r)
    | _ => trivial

theorem CInv.lstep {st0 : St} {cfg : Cfg} (H : CInv st0 cfg) (i : Nat) {st' : St} {t' : Thread}
    (L : LStep cfg.st (cfg.ts i) st' t') : CInv st0 ⟨st', fun k => if k = i then t' else cfg.ts k⟩ := by
  obtain ⟨hc, hh⟩ := L.same
  have others := fun a (hai : a ≠ i) =>
    L.bystander (cfg.ts a) (fun ha hi heq => hai (H.mutex a i ha hi heq)) (H.leased a)
  refine ⟨?inv, ?mutex, ?leased, ?checked, ?wf, ?cleared, fun x y hxy => H.mono x y (L.ownsMono x y hxy), ?passed⟩
  case inv =>
    intro h k r hr
    rcases L.routes h k r hr with hold | ⟨e1, e2, e3, e4, e5, e6⟩
    · obtain ⟨a1, a2, a3, a4⟩ := H.inv h k r hold
      refine ⟨a1, a2, a3, ?_⟩
      cases hs : st'.owns r.client.token h with
      | true => rfl
      | false =>
        -- a registration goes only when no route of the hostname names its client
        obtain ⟨_, _, _, _, hnone⟩ := L.ownsLost _ _ a4 hs
        exact absurd rfl (hnone k r hold)
    · refine ⟨e5.trans e1.symm, e2, e3, ?_⟩
      rw [e4, e1]
      cases hs : st'.owns (cfg.ts i).c.token (cfg.ts i).h with
      | true => rfl
      | false =>
        -- and not while its request is in the window
        obtain ⟨_, _, _, hunchecked, _⟩ := L.ownsLost _ _ (H.checked i e6) hs
        rw [e6] at hunchecked
        cases hunchecked
  case mutex =>
    intro a b ha hb hab
    simp only at ha hb hab
    by_cases hai : a = i <;> by_cases hbi : b = i
    · rw [hai, hbi]
    · simp only [hai, hbi, if_true, if_false] at ha hb hab
      exact absurd (hab.symm.trans (congrArg Client.token hc)) ((others b hbi).1 hb ha)
    · simp only [hai, hbi, if_true, if_false] at ha hb hab
      exact absurd (hab.trans (congrArg Client.token hc)) ((others a hai).1 ha hb)
    · simp only [hai, hbi, if_false] at ha hb hab
      exact H.mutex a b ha hb hab
  case leased =>
    intro a
    simp only
    split
    · rw [hc]; exact L.leaseIn
    · next hai => exact (others a hai).2.1
  case checked =>
    intro a
    simp only
    split
    · rw [hc, hh]; exact L.checked
    · next hai => exact fun ha => (others a hai).2.2.1 ha (H.checked a ha)
  case wf =>
    intro a
    simp only
    split
    · exact L.wf
    · exact H.wf a
  case cleared =>
    intro a
    simp only
    split
    · exact L.cleared
    · next hai => exact (others a hai).2.2.2 (H.cleared a)
  case passed =>
    intro a
    simp only
    split
    · rw [hc, hh]
      exact fun ha => (L.passed ha).elim (H.passed i) (H.mono _ _)
    · exact H.passed a

theorem cinv_step (st0 : St) (cfg : Cfg) (i j : Nat) (H : CInv st0 cfg) : CInv st0 (cstep cfg i j) :=
  H.lstep i (tstep_lstep cfg.st (cfg.ts i) j H.inv (H.wf i) (H.cleared i) (H.leased i) (H.checked i))

theorem cinv_run (st0 : St) (cfg : Cfg) (sched : List (Nat × Nat)) (H : CInv st0 cfg) : CInv st0 (crun cfg sched) :=
  List.foldlRecOn sched _ H fun cfg H s _ => cinv_step st0 cfg s.1 s.2 H

/-- every request of the pool has just entered its handler. -/
def Fresh (ts : Nat → Thread) : Prop := ∀ a, ∃ kind f c h, ts a = spawn kind f c h

/-- a request that has made no KV call. -/
structure Unstarted (t : Thread) : Prop where
  outside : t.pc.inside = false
  unchecked : t.pc.checked = false
  unpassed : t.pc.passed = false
  wf : WF t
  cleared : ∀ st, Cleared st t

theorem spawn_unstarted (kind : Kind) (f : Faults) (c : Client) (h : String) : Unstarted (spawn kind f c h) := by
  cases kind with
  | publish s =>
    unfold spawn
    simp only
    by_cases h1 : (uniq s).length > numLinks
    · rw [if_pos h1]; exact ⟨rfl, rfl, rfl, trivial, fun _ => trivial⟩
    rw [if_neg h1]
    by_cases h2 : (uniq s).length < 1
    · rw [if_pos h2]; exact ⟨rfl, rfl, rfl, trivial, fun _ => trivial⟩
    · rw [if_neg h2]; exact ⟨rfl, rfl, rfl, Nat.le_of_not_gt h1, fun _ => trivial⟩
  | _ => exact ⟨rfl, rfl, rfl, Nat.zero_le _, fun _ => trivial⟩

theorem cinv_init (st : St) (ts : Nat → Thread) (hinv : Inv st) (hf : Fresh ts) : CInv st ⟨st, ts⟩ := by
  have h : ∀ a, Unstarted (ts a) := by
    intro a
    obtain ⟨kind, f, c, h, e⟩ := hf a
    rw [e]
    exact spawn_unstarted kind f c h
  exact {
    inv := hinv
    mutex := fun a _ ha => Bool.noConfusion ((h a).outside.symm.trans ha)
    leased := fun a ha => Bool.noConfusion ((h a).outside.symm.trans ha)
    checked := fun a ha => Bool.noConfusion ((h a).unchecked.symm.trans ha)
    wf := fun a => (h a).wf
    cleared := fun a => (h a).cleared st
    mono := fun _ _ ho => ho
    passed := fun a ha => Bool.noConfusion ((h a).unpassed.symm.trans ha) }

theorem cinv_reachable (st : St) (ts : Nat → Thread) (hinv : Inv st) (hf : Fresh ts) (sched : List (Nat × Nat)) :
    CInv st (crun ⟨st, ts⟩ sched) :=
  cinv_run st _ sched (cinv_init st ts hinv hf)

/-- C26 under concurrency: whatever publish / unpublish / release requests (of any clients, on any hostnames) run
concurrently and however their KV calls interleave, at every moment every stored route sits in slot 1..3 of its own
hostname and names a client to whom that hostname is registered. -/
theorem conc_inv (st : St) (ts : Nat → Thread) (hinv : Inv st) (hf : Fresh ts) (sched : List (Nat × Nat)) :
    Inv (crun ⟨st, ts⟩ sched).st :=
  (cinv_reachable st ts hinv hf sched).inv

/-- the per-client lease is a mutex: two requests of one client are never both between Acquire and Release. -/
theorem lease_mutex (st : St) (ts : Nat → Thread) (hinv : Inv st) (hf : Fresh ts) (sched : List (Nat × Nat)) (a b : Nat)
    (ha : ((crun ⟨st, ts⟩ sched).ts a).pc.inside = true) (hb : ((crun ⟨st, ts⟩ sched).ts b).pc.inside = true)
    (hab : ((crun ⟨st, ts⟩ sched).ts a).c.token = ((crun ⟨st, ts⟩ sched).ts b).c.token) : a = b :=
  (cinv_reachable st ts hinv hf sched).mutex a b ha hb hab

/-- (ownership check, route writes) is atomic w.r.t. release: from the moment a publish request has passed its
ownership check until its last route Put, the hostname is still registered to its client — no ReleaseTunnel of
that client can remove the registration inside the window. -/
theorem checked_owns (st : St) (ts : Nat → Thread) (hinv : Inv st) (hf : Fresh ts) (sched : List (Nat × Nat)) (a : Nat)
    (ha : ((crun ⟨st, ts⟩ sched).ts a).pc.checked = true) :
    (crun ⟨st, ts⟩ sched).st.owns ((crun ⟨st, ts⟩ sched).ts a).c.token ((crun ⟨st, ts⟩ sched).ts a).h = true :=
  (cinv_reachable st ts hinv hf sched).checked a ha

/-- once every request has returned, a route exists only for a hostname registered to the client it names. -/
theorem conc_quiescent (st : St) (ts : Nat → Thread) (hinv : Inv st) (hf : Fresh ts) (sched : List (Nat × Nat))
    (_hdone : ∀ a, ∃ o, ((crun ⟨st, ts⟩ sched).ts a).pc = .done o) (h : String) (k : Nat) (r : Route)
    (hr : (crun ⟨st, ts⟩ sched).st.route h k = some r) :
    (crun ⟨st, ts⟩ sched).st.owns r.client.token h = true ∧ r.hostname = h ∧ 1 ≤ k ∧ k ≤ numLinks := by
  obtain ⟨a, b, c, d⟩ := conc_inv st ts hinv hf sched h k r hr
  exact ⟨d, a, b, c⟩

/-- a request that returns success found its hostname registered to its caller — and it was registered to the
caller before the requests started (nothing registers hostnames inside the pool). -/
theorem conc_ok_requires_owner (st : St) (ts : Nat → Thread) (hinv : Inv st) (hf : Fresh ts) (sched : List (Nat × Nat))
    (a : Nat) (p : List String) (hok : ((crun ⟨st, ts⟩ sched).ts a).pc = .done (.ok p)) :
    st.owns ((crun ⟨st, ts⟩ sched).ts a).c.token ((crun ⟨st, ts⟩ sched).ts a).h = true :=
  (cinv_reachable st ts hinv hf sched).passed a (by rw [hok]; rfl)

/-- the pool of exactly two concurrent requests (every other slot holds a request that returned before any KV call). -/
def pair (a b : Thread) : Nat → Thread := fun i => if i = 0 then a else if i = 1 then b else spawn (.publish []) {} a.c a.h

theorem fresh_pair (kA kB : Kind) (fA fB : Faults) (cA cB : Client) (hA hB : String) :
    Fresh (pair (spawn kA fA cA hA) (spawn kB fB cB hB)) := by
  intro i
  unfold pair
  by_cases h0 : i = 0
  · exact ⟨kA, fA, cA, hA, if_pos h0⟩
  · by_cases h1 : i = 1
    · exact ⟨kB, fB, cB, hB, (if_neg h0).trans (if_pos h1)⟩
    · exact ⟨.publish [], {}, _, _, (if_neg h0).trans (if_neg h1)⟩

/-- two overlapping requests (e.g. PublishTunnel(h) and ReleaseTunnel(h) of one client on two streams), any
interleaving of their KV calls: when both have returned — whatever they returned — a route exists only for a
hostname that is registered to the client the route names. -/
theorem conc_pair (st : St) (hinv : Inv st) (kA kB : Kind) (fA fB : Faults) (cA cB : Client) (hA hB : String)
    (sched : List (Nat × Nat)) (h : String) (k : Nat) (r : Route)
    (hr : (crun ⟨st, pair (spawn kA fA cA hA) (spawn kB fB cB hB)⟩ sched).st.route h k = some r) :
    (crun ⟨st, pair (spawn kA fA cA hA) (spawn kB fB cB hB)⟩ sched).st.owns r.client.token h = true := by
  exact (conc_inv st _ hinv (fresh_pair kA kB fA fB cA cB hA hB) sched h k r hr).2.2.2

/-! ## non-vacuity: the window between the ownership check and the route writes -/

private def cd0 : String → Option Dest
  | "s1" => some ⟨"c1", "s1"⟩ | "s2" => some ⟨"c2", "s2"⟩ | _ => none
private def calice : Client := ⟨"alice", 1⟩
private def cstA : St := (generate calice "h" (init cd0)).1
private def pubRel : Cfg := ⟨cstA, pair (spawn (.publish [some "s1", some "s2"]) {} calice "h") (spawn .release {} calice "h")⟩

/-- release arrives between publish's ownership check and its route writes (during the destination lookups):
its Acquire meets the lease held by publish and it is refused; publish completes; the hostname stays registered. -/
private def windowSched : List (Nat × Nat) :=
  [(0, 0), (0, 0), (0, 1), (1, 0), (0, 0), (0, 1), (0, 0), (0, 0)]

example : ((crun pubRel windowSched).ts 0).pc.out? = some (.ok ["s1", "s2"]) := by decide +kernel
example : ((crun pubRel windowSched).ts 1).pc.out? = some .internal := by decide +kernel
example : (crun pubRel windowSched).st.route "h" 2 = some ⟨calice, "c2", "s2", "h"⟩ := by decide +kernel
example : (crun pubRel windowSched).st.owns "alice" "h" = true := by decide +kernel
example : (crun pubRel windowSched).st.leased "alice" = false := by decide +kernel
example : ((crun pubRel [(0, 0), (0, 0), (0, 1)]).ts 0).pc.checked = true := by decide +kernel

/-- release runs first (8 KV calls), then publish: refused, no route. -/
private def relFirst : List (Nat × Nat) :=
  [(1, 0), (1, 0), (1, 2), (1, 0), (1, 0), (1, 0), (1, 0), (1, 0), (0, 0), (0, 0), (0, 0)]

example : ((crun pubRel relFirst).ts 1).pc.out? = some (.ok []) := by decide +kernel
example : ((crun pubRel relFirst).ts 0).pc.out? = some .permissionDenied := by decide +kernel
example : (crun pubRel relFirst).st.route "h" 1 = none := by decide +kernel
example : (crun pubRel relFirst).st.owns "alice" "h" = false := by decide +kernel

/-- publish first, then release: both succeed, routes and registration are gone. -/
private def pubFirst : List (Nat × Nat) :=
  [(0, 0), (0, 0), (0, 0), (0, 0), (0, 1), (0, 0), (0, 0),
   (1, 0), (1, 0), (1, 0), (1, 0), (1, 0), (1, 0), (1, 0), (1, 0)]

example : ((crun pubRel pubFirst).ts 0).pc.out? = some (.ok ["s1", "s2"]) := by decide +kernel
example : ((crun pubRel pubFirst).ts 1).pc.out? = some (.ok []) := by decide +kernel
example : (crun pubRel pubFirst).st.route "h" 1 = none ∧ (crun pubRel pubFirst).st.route "h" 2 = none := by decide +kernel
example : Fresh pubRel.ts := fresh_pair _ _ _ _ _ _ _ _
example : Inv pubRel.st := inv_step _ (.generate calice "h") (inv_init cd0)

end Specter.C26
