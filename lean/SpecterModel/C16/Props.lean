import SpecterModel.Lists
import SpecterModel.C16.Spec
import SpecterModel.C16.Gen
/-!
# C16 — every storage back-end implements the KV contract

`Specter.Kv.step b` is the executable model of back-end `b` (tied to the Go code differentially, see
`Drv.lean` / `harness/cmd/c16`), `Specter.Kv.Spec.step` the contract. Main theorem
`refines_contract`: for EVERY sequence of contract operations the model's answers conform to the
contract's (`Get` values modulo empty ≡ absent, everything else equal), by a simulation relation `R`
and one step lemma with a case per operation (`step_sim`). For sqlite the statement carries the hypothesis that no
operation puts an empty or nil simple value (`Op.putsEmpty`); `sqlite_lists_empty_value` witnesses that it cannot be dropped
(`Put(k, "")` then `ListKeys` reports SIMPLE although the contract treats the value as absent).
-/
namespace Specter.Kv

/-! ## store lemmas (shared with C17 / C19) -/

theorem Store.upd_ent (s : Store) (k : Key) (f : Entry → Entry) (k' : Key) :
    (s.upd k f).ent k' = if k' = k then f (s.ent k) else s.ent k' := rfl

@[simp] theorem Store.upd_ent_same (s : Store) (k : Key) (f : Entry → Entry) :
    (s.upd k f).ent k = f (s.ent k) := if_pos rfl

theorem Store.upd_ent_other {s : Store} {k : Key} {f : Entry → Entry} {k' : Key} (h : k' ≠ k) :
    (s.upd k f).ent k' = s.ent k' := if_neg h

theorem Store.upd_ent_proj {α : Type} (p : Entry → α) {s : Store} {k : Key} {f : Entry → Entry}
    (hf : p (f (s.ent k)) = p (s.ent k)) (k' : Key) : p ((s.upd k f).ent k') = p (s.ent k') := by
  rw [Store.upd_ent]
  split
  · subst k'; exact hf
  · rfl

theorem Store.upd_ent_rel {P : Entry → Entry → Prop} {m s : Store} {k : Key} {f g : Entry → Entry}
    (hk : P (f (m.ent k)) (g (s.ent k))) (h : ∀ k', P (m.ent k') (s.ent k')) (k' : Key) :
    P ((m.upd k f).ent k') ((s.upd k g).ent k') := by
  by_cases c : k' = k
  · rw [c, Store.upd_ent_same, Store.upd_ent_same]; exact hk
  · rw [Store.upd_ent_other c, Store.upd_ent_other c]; exact h k'

theorem Store.drop_ent (s : Store) (k k' : Key) :
    (s.drop k).ent k' = if k' = k then {} else s.ent k' := rfl

/-! `if a ∈ l then l else l ++ [a]` is how `Store.upd` extends `dom` and `addChildren` a child list -/

theorem mem_addNew {α : Type} (l : List α) (a x : α) [Decidable (a ∈ l)] :
    x ∈ (if a ∈ l then l else l ++ [a]) ↔ x ∈ l ∨ x = a := by
  split
  · exact ⟨Or.inl, fun h => h.elim id (· ▸ ‹a ∈ l›)⟩
  · simp

theorem nodup_addNew {α : Type} {l : List α} (h : l.Nodup) (a : α) [Decidable (a ∈ l)] :
    (if a ∈ l then l else l ++ [a]).Nodup := by
  split
  · exact h
  · exact nodup_snoc h ‹_›

theorem Store.mem_upd_dom (s : Store) (k : Key) (f : Entry → Entry) (k' : Key) :
    k' ∈ (s.upd k f).dom ↔ k' ∈ s.dom ∨ k' = k := mem_addNew s.dom k k'

/-- well-formed stores: what every reachable model state satisfies -/
structure WF (s : Store) : Prop where
  nodupDom : s.dom.Nodup
  support : ∀ k, k ∉ s.dom → s.ent k = {}
  nodupCh : ∀ k, (s.ent k).children.Nodup

theorem WF.init : WF Store.init := ⟨List.nodup_nil, fun _ _ => rfl, fun _ => List.nodup_nil⟩

theorem WF.mem_dom {s : Store} (h : WF s) {k : Key} (hk : s.ent k ≠ {}) : k ∈ s.dom :=
  Decidable.by_contra fun hn => hk (h.support k hn)

theorem WF.upd {s : Store} (h : WF s) (k : Key) (f : Entry → Entry)
    (hf : (f (s.ent k)).children.Nodup) : WF (s.upd k f) where
  nodupDom := nodup_addNew h.nodupDom k
  support k' hk' := by
    rw [Store.mem_upd_dom, not_or] at hk'
    rw [Store.upd_ent_other hk'.2]
    exact h.support k' hk'.1
  -- a property of one store: `upd_ent_rel` with the same store and update on both sides
  nodupCh := Store.upd_ent_rel (P := fun e _ => e.children.Nodup) (s := s) (g := f) hf h.nodupCh

theorem WF.drop {s : Store} (h : WF s) (k : Key) : WF (s.drop k) where
  nodupDom := h.nodupDom.erase k
  support k' hk' := by
    rw [Store.drop_ent]
    split
    · rfl
    · exact h.support k' fun hm => hk' ((List.mem_erase_of_ne ‹_›).mpr hm)
  -- entry by entry, `drop k` is `upd k fun _ => {}`
  nodupCh := (h.upd k (fun _ => {}) List.nodup_nil).nodupCh

theorem addChildren_cons (cs : List Bytes) (c : Bytes) (new : List Bytes) :
    addChildren cs (c :: new) = addChildren (if c ∈ cs then cs else cs ++ [c]) new := rfl

theorem addChildren_nodup (new cs : List Bytes) (h : cs.Nodup) : (addChildren cs new).Nodup :=
  List.foldlRecOn (motive := List.Nodup) new _ h fun _ hs c _ => nodup_addNew hs c

theorem mem_addChildren (new cs : List Bytes) (c : Bytes) :
    c ∈ addChildren cs new ↔ c ∈ cs ∨ c ∈ new := by
  induction new generalizing cs with
  | nil => simp [addChildren]
  | cons d new ih => rw [addChildren_cons, ih, mem_addNew, List.mem_cons, or_assoc]

theorem importAll_cons (b : Backend) (s : Store) (kv : Key × Entry) (kvs : List (Key × Entry)) :
    importAll b s (kv :: kvs) = importAll b (s.upd kv.1 (importEntry b kv.2)) kvs := rfl

theorem removeAll_cons (s : Store) (k : Key) (ks : List Key) :
    removeAll s (k :: ks) = removeAll (s.drop k) ks := rfl

theorem onLease_fst (s : Store) (k : Key) (r : Nat × Out) :
    (onLease s k r).1 = if r.1 = (s.ent k).lease then s else s.upd k fun e => { e with lease := r.1 } := rfl

theorem onLease_wf {s : Store} (h : WF s) (k : Key) (r : Nat × Out) : WF (onLease s k r).1 := by
  rw [onLease_fst]
  split
  · exact h
  · exact h.upd k _ (h.nodupCh k)

theorem importAll_wf (b : Backend) (kvs : List (Key × Entry)) (s : Store) (h : WF s) :
    WF (importAll b s kvs) :=
  List.foldlRecOn (motive := WF) kvs _ h fun s hs kv _ =>
    hs.upd _ _ (by fun_cases importEntry b kv.2 (s.ent kv.1) <;> exact addChildren_nodup _ _ (hs.nodupCh _))

theorem removeAll_wf (ks : List Key) (s : Store) (h : WF s) : WF (removeAll s ks) :=
  List.foldlRecOn (motive := WF) ks _ h fun _ hs k _ => hs.drop k

theorem step_wf (b : Backend) (hash : Key → Nat) (s : Store) (op : Op) (h : WF s) :
    WF (step b hash s op).1 := by
  cases op <;> dsimp only [step]
  case get | plist | pcontains | listKeys | exportKV | rangeKeys => exact h
  case put k _ | delete k => exact h.upd k _ (h.nodupCh k)
  case pappend k c =>
    by_cases m : c ∈ (s.ent k).children
    · simp only [if_pos m]; exact h
    · simp only [if_neg m]; exact h.upd k _ (nodup_snoc (h.nodupCh k) m)
  case premove k c => exact h.upd k _ ((h.nodupCh k).erase c)
  case acquire | renew | release => exact onLease_wf h _ _
  case importKV kvs => exact importAll_wf b kvs s h
  case removeKeys ks => exact removeAll_wf ks s h

theorem exec_wf (b : Backend) (hash : Key → Nat) (ops : List Op) (s : Store) (h : WF s) :
    WF (exec (step b hash) s ops) := by
  induction ops generalizing s with
  | nil => exact h
  | cons op ops ih => exact ih _ (step_wf b hash s op h)

/-! ## lease cell: the back-end comparisons are the contract's (with the back-end's policy) -/

/-! Go's `Duration.Truncate` rounds toward zero (`tmod`), the contract rounds down (`/`), to a unit `s > 0`. -/

theorem trunc_lt {s ttl : Int} (hs : 0 < s) (h : ttl < s) : ttl - ttl.tmod s < s := by
  have := Int.lt_tmod_of_pos ttl hs
  have := Int.tmod_nonneg s (a := ttl)
  omega

theorem trunc_eq {s ttl : Int} (hs : 0 < s) (h : s ≤ ttl) : ttl - ttl.tmod s = ttl / s * s := by
  rw [Int.tmod_eq_emod_of_nonneg (Int.le_trans (Int.le_of_lt hs) h), Int.emod_def, Int.sub_sub_self, Int.mul_comm]

theorem floor_bounds {s ttl : Int} (hs : 0 < s) (h : s ≤ ttl) :
    s ≤ ttl / s * s ∧ ttl / s * s ≤ ttl ∧ ttl < ttl / s * s + s := by
  refine ⟨?_, Int.ediv_mul_le ttl (Int.ne_of_gt hs), ?_⟩
  · have := Int.mul_le_mul_of_nonneg_right (Int.le_ediv_of_mul_le hs (by rwa [Int.one_mul])) (Int.le_of_lt hs)
    rwa [Int.one_mul] at this
  · have := Int.lt_ediv_add_one_mul_self ttl hs
    rwa [Int.add_mul, Int.one_mul] at this

theorem ttlGuard_eq_grant (ttl : Int) : ttlGuard ttl = Spec.grant ttl := by
  have hs : 0 < second := by decide
  simp only [ttlGuard]
  fun_cases Spec.grant ttl
  · exact if_pos (trunc_lt hs ‹_›)
  · have c := Int.not_lt.mp ‹_›
    rw [trunc_eq hs c]
    exact if_neg (Int.not_lt.mpr (floor_bounds hs c).1)

/-- the shape `Acquire` and `Renew` share, in the back-ends and in the contract -/
def timedCell (g : Option Nat) (ok : Prop) [Decidable ok] (cur now : Nat) (err : Out) : Nat × Out :=
  match g with
  | none => (cur, .invalidTTL)
  | some d => if ok then (now + d, .token (now + d)) else (cur, err)

theorem not_free_or_expired {cur now : Nat} (h : now < cur) : ¬(cur = 0 ∨ cur ≤ now) :=
  not_or.mpr ⟨Nat.ne_of_gt (Nat.zero_lt_of_lt h), Nat.not_le.mpr h⟩

theorem acquireCell_timed (cur now : Nat) (ttl : Int) :
    acquireCell cur now ttl =
      timedCell (ttlGuard ttl) (cur = 0 ∨ cur ≤ now) cur now .leaseConflict := by
  unfold acquireCell timedCell
  cases ttlGuard ttl with
  | none => rfl
  | some d =>
    by_cases c : cur > now
    · exact (if_pos c).trans (if_neg (not_free_or_expired c)).symm
    · exact (if_neg c).trans (if_pos (Or.inr (Nat.le_of_not_gt c))).symm

theorem renewOk_iff (b : Backend) (cur prev now : Nat) :
    renewOk b cur prev now = true ↔
      (cur ≠ 0 ∧ prev = cur ∧ (now < cur ∨ (b.policy.renewAtExpiry = true ∧ now = cur))) := by
  unfold renewOk Backend.policy
  cases b.isSql <;> simp
  · -- memory refuses `now > cur`: what remains is `now < cur` or the instant of expiry itself
    exact ⟨fun ⟨⟨h0, h1⟩, h2⟩ => ⟨h0, h2.symm, Nat.lt_or_eq_of_le h1⟩,
      fun ⟨h0, h2, h1⟩ => ⟨⟨h0, h1.elim Nat.le_of_lt Nat.le_of_eq⟩, h2.symm⟩⟩
  · -- sqlite has no test for 0: `token > now` implies it
    exact ⟨fun ⟨h2, h1⟩ => ⟨Nat.ne_of_gt (Nat.zero_lt_of_lt h1), h2.symm, h1⟩, fun ⟨_, h2, h1⟩ => ⟨h2.symm, h1⟩⟩

theorem renewCell_timed (b : Backend) (cur prev now : Nat) (ttl : Int) :
    renewCell b cur prev now ttl =
      timedCell (ttlGuard ttl)
        (cur ≠ 0 ∧ prev = cur ∧ (now < cur ∨ (b.policy.renewAtExpiry = true ∧ now = cur)))
        cur now .leaseExpired := by
  unfold renewCell timedCell
  cases ttlGuard ttl <;> simp only [renewOk_iff]

theorem acquireCell_eq (cur now : Nat) (ttl : Int) :
    acquireCell cur now ttl = Spec.acquireCell cur now ttl := by
  rw [acquireCell_timed, ttlGuard_eq_grant]; rfl

theorem renewCell_eq (b : Backend) (cur prev now : Nat) (ttl : Int) :
    renewCell b cur prev now ttl = Spec.renewCell b.policy cur prev now ttl := by
  rw [renewCell_timed, ttlGuard_eq_grant]; rfl

theorem releaseOk_iff (b : Backend) (cur tok : Nat) :
    releaseOk b cur tok = true ↔ (tok = cur ∧ (cur ≠ 0 ∨ b.policy.releaseFreeZero = true)) := by
  unfold releaseOk Backend.policy
  cases b.isSql <;> simp
  · exact eq_comm
  · exact ⟨fun ⟨h0, h⟩ => ⟨h.symm, h0⟩, fun ⟨h, h0⟩ => ⟨h0, h.symm⟩⟩

theorem releaseCell_eq (b : Backend) (cur tok : Nat) :
    releaseCell b cur tok = Spec.releaseCell b.policy cur tok := by
  unfold releaseCell Spec.releaseCell
  simp only [releaseOk_iff]

theorem norm_norm : (v : Option Bytes) → norm (norm v) = norm v
  | none | some [] | some (_ :: _) => rfl

/-- sqlite stores `[]` for a nil value: the same after `norm` -/
theorem norm_putValue (b : Backend) (v : Option Bytes) : norm (putValue b v) = norm v := by
  fun_cases putValue b v
  · cases v <;> rfl
  · rfl

theorem listsSimple_eq (b : Backend) (e : Entry) (h : b.isSql = true → e.simple ≠ some []) :
    listsSimple b e = (norm e.simple).isSome := by
  unfold listsSimple
  split
  · match he : e.simple with
    | none | some (_ :: _) => rfl
    | some [] => exact absurd he (h ‹_›)
  · match e.simple with
    | none | some [] | some (_ :: _) => rfl

/-- model state `m` of back-end `b` represents contract state `s` -/
structure R (b : Backend) (m s : Store) : Prop where
  dom : m.dom = s.dom
  simple : ∀ k, norm (m.ent k).simple = (s.ent k).simple
  children : ∀ k, (m.ent k).children = (s.ent k).children
  lease : ∀ k, (m.ent k).lease = (s.ent k).lease
  /-- sqlite under the no-empty-value hypothesis: no stored row is empty -/
  sqlRows : b.isSql = true → ∀ k, (m.ent k).simple ≠ some []

theorem R.init (b : Backend) : R b Store.init Store.init :=
  ⟨rfl, fun _ => rfl, fun _ => rfl, fun _ => rfl, fun _ _ => nofun⟩

theorem R.upd {b : Backend} {m s : Store} (h : R b m s) (k : Key) (f g : Entry → Entry)
    (h1 : norm (f (m.ent k)).simple = (g (s.ent k)).simple)
    (h2 : (f (m.ent k)).children = (g (s.ent k)).children)
    (h3 : (f (m.ent k)).lease = (g (s.ent k)).lease)
    (h4 : b.isSql = true → (f (m.ent k)).simple ≠ some []) :
    R b (m.upd k f) (s.upd k g) :=
  ⟨by simp only [Store.upd, h.dom],
    Store.upd_ent_rel (P := fun e e' => norm e.simple = e'.simple) h1 h.simple,
    Store.upd_ent_rel (P := fun e e' => e.children = e'.children) h2 h.children,
    Store.upd_ent_rel (P := fun e e' => e.lease = e'.lease) h3 h.lease,
    -- about `m` alone: the same store and update on both sides
    fun q => Store.upd_ent_rel (P := fun e _ => e.simple ≠ some []) (s := m) (g := f) (h4 q) (h.sqlRows q)⟩

theorem R.onLease {b : Backend} {m s : Store} (h : R b m s) (k : Key) (r : Nat × Out) :
    R b (onLease m k r).1 (onLease s k r).1 ∧ Out.conforms (onLease m k r).2 (onLease s k r).2 := by
  refine ⟨?_, rfl⟩
  rw [onLease_fst, onLease_fst, h.lease k]
  split
  · exact h
  · exact h.upd k _ _ (h.simple k) (h.children k) rfl (fun q => h.sqlRows q k)

theorem kindsOf_eq {b : Backend} {m s : Store} (h : R b m s) (k : Key) :
    kindsOf b k (m.ent k) = Spec.kindsOf k (s.ent k) := by
  unfold kindsOf Spec.kindsOf
  rw [listsSimple_eq b _ (fun q => h.sqlRows q k), h.simple k, h.children k, h.lease k]

theorem listKeys_eq {b : Backend} {m s : Store} (h : R b m s) (pre : Bytes) :
    listKeys b m pre = Spec.listKeys s pre := by
  unfold listKeys Spec.listKeys
  rw [h.dom]
  congr 1
  funext k
  exact kindsOf_eq h k

/-- one lemma for all operations; `hne` is needed for sqlite only -/
theorem step_sim (b : Backend) (hash : Key → Nat) (m s : Store) (op : Op) (h : R b m s)
    (hkv : op.isKV = true) (hne : b.isSql = true → op.putsEmpty = false) :
    R b (step b hash m op).1 (Spec.step b.policy hash s op).1 ∧
      Out.conforms (step b hash m op).2 (Spec.step b.policy hash s op).2 := by
  have keep (k : Key) : b.isSql = true → (m.ent k).simple ≠ some [] := fun q => h.sqlRows q k
  cases op <;> dsimp only [step, Spec.step]
  case importKV | exportKV | rangeKeys | removeKeys => cases hkv
  case put k v =>
    refine ⟨h.upd k _ _ (norm_putValue b v) (h.children k) (h.lease k) fun q (e : putValue b v = some []) => ?_, rfl⟩
    have := hne q
    rw [Op.putsEmpty, ← norm_putValue b v, e] at this
    cases this
  case get k => exact ⟨h, by simp only [Out.conforms, Out.normalize, ← h.simple k, norm_norm]⟩
  case delete k => exact ⟨h.upd k _ _ rfl (h.children k) (h.lease k) (fun _ => nofun), rfl⟩
  case pappend k c =>
    rw [h.children k]
    by_cases mem : c ∈ (s.ent k).children
    · simp only [if_pos mem]; exact ⟨h, rfl⟩
    · simp only [if_neg mem]
      exact ⟨h.upd k _ _ (h.simple k) (congrArg (· ++ [c]) (h.children k)) (h.lease k) (keep k), rfl⟩
  case plist k | pcontains k _ => rw [h.children k]; exact ⟨h, rfl⟩
  case premove k c =>
    exact ⟨h.upd k _ _ (h.simple k) (congrArg (·.erase c) (h.children k)) (h.lease k) (keep k), rfl⟩
  case listKeys pre => rw [listKeys_eq h]; exact ⟨h, rfl⟩
  case acquire k ttl now => rw [h.lease k, acquireCell_eq]; exact h.onLease k _
  case renew k ttl prev now => rw [h.lease k, renewCell_eq]; exact h.onLease k _
  case release k tok => rw [h.lease k, releaseCell_eq]; exact h.onLease k _

/-- pointwise conformance of two answer lists -/
def conformsAll : List Out → List Out → Prop
  | [], [] => True
  | a :: as, b :: bs => Out.conforms a b ∧ conformsAll as bs
  | _, _ => False

theorem run_sim (b : Backend) (hash : Key → Nat) (ops : List Op) (m s : Store) (h : R b m s)
    (hok : ∀ op ∈ ops, op.isKV = true ∧ (b.isSql = true → op.putsEmpty = false)) :
    conformsAll (run (step b hash) m ops) (run (Spec.step b.policy hash) s ops) := by
  induction ops generalizing m s with
  | nil => exact True.intro
  | cons op ops ih =>
    rw [List.forall_mem_cons] at hok
    have hs := step_sim b hash m s op h hok.1.1 hok.1.2
    exact ⟨hs.2, ih _ _ hs.1 hok.2⟩

/-- **C16 (memory, aof)**: for every sequence of contract operations, the back-end's answers are the
reference model's (values modulo empty ≡ absent; listings, children, errors, tokens equal). -/
theorem refines_contract (b : Backend) (hb : b.isSql = false) (hash : Key → Nat) (ops : List Op)
    (hkv : ∀ op ∈ ops, op.isKV = true) :
    conformsAll (run (step b hash) Store.init ops) (run (Spec.step b.policy hash) Store.init ops) :=
  run_sim b hash ops _ _ (R.init b) fun op ho => ⟨hkv op ho, fun q => absurd (hb ▸ q) nofun⟩

/-- **C16 (sqlite), partial**: the same for sqlite on histories that never put an empty or nil simple
value (`Op.putsEmpty`). Full statement (without `hne`) is FALSE for the code as it is — see `sqlite_lists_empty_value`. -/
theorem refines_contract_sqlite_partial (hash : Key → Nat) (ops : List Op)
    (hkv : ∀ op ∈ ops, op.isKV = true) (hne : ∀ op ∈ ops, op.putsEmpty = false) :
    conformsAll (run (step .sqlite hash) Store.init ops)
      (run (Spec.step Backend.sqlite.policy hash) Store.init ops) :=
  run_sim .sqlite hash ops _ _ (R.init _) fun op ho => ⟨hkv op ho, fun _ => hne op ho⟩

/-- witness that the hypothesis cannot be dropped: `Put(k, "")` then `ListKeys("")` on the sqlite
model reports SIMPLE for `k`, the contract (empty ≡ absent) reports nothing. -/
theorem sqlite_lists_empty_value :
    ¬ conformsAll (run (step .sqlite (fun _ => 0)) Store.init [.put [107] (some []), .listKeys []])
        (run (Spec.step Backend.sqlite.policy (fun _ => 0)) Store.init [.put [107] (some []), .listKeys []]) := by
  exact fun h => absurd h.2.1 (by decide +kernel)

/-! ## the clauses of the statement, directly on the back-end model (every back-end, every state) -/

/-- put overwrites, whatever was there -/
theorem put_overwrites (b : Backend) (hash : Key → Nat) (s : Store) (k : Key) (v : Option Bytes) :
    Out.conforms (step b hash (step b hash s (.put k v)).1 (.get k)).2 (.value v) := by
  simp only [step, Store.upd_ent_same, Out.conforms, Out.normalize, norm_putValue]

/-- an empty simple value is treated as absent -/
theorem get_empty_is_absent (b : Backend) (hash : Key → Nat) (s : Store) (k : Key) :
    Out.conforms (step b hash (step b hash s (.put k (some []))).1 (.get k)).2 (.value none) :=
  put_overwrites b hash s k (some [])

/-- delete removes -/
theorem delete_removes (b : Backend) (hash : Key → Nat) (s : Store) (k : Key) :
    (step b hash (step b hash s (.delete k)).1 (.get k)).2 = .value none := by
  simp only [step, Store.upd_ent_same]

/-- duplicate appends conflict, and only they do -/
theorem append_conflict_iff_member (b : Backend) (hash : Key → Nat) (s : Store) (k : Key) (c : Bytes) :
    (step b hash s (.pappend k c)).2 = .prefixConflict ↔ c ∈ (s.ent k).children := by
  simp only [step]
  by_cases m : c ∈ (s.ent k).children <;> simp [m]

theorem append_then_contains (b : Backend) (hash : Key → Nat) (s : Store) (k : Key) (c : Bytes) :
    (step b hash (step b hash s (.pappend k c)).1 (.pcontains k c)).2 = .bool true := by
  simp only [step]
  by_cases m : c ∈ (s.ent k).children <;> simp [m]

/-- a rejected append changes nothing -/
theorem append_conflict_unchanged (b : Backend) (hash : Key → Nat) (s : Store) (k : Key) (c : Bytes)
    (h : (step b hash s (.pappend k c)).2 = .prefixConflict) : (step b hash s (.pappend k c)).1 = s := by
  have m := (append_conflict_iff_member b hash s k c).mp h
  simp [step, m]

/-- removes are idempotent -/
theorem remove_idempotent (b : Backend) (hash : Key → Nat) (s : Store) (k : Key) (c : Bytes)
    (h : c ∉ (s.ent k).children) (k' : Key) :
    (step b hash s (.premove k c)).2 = .ok ∧ (step b hash s (.premove k c)).1.ent k' = s.ent k' := by
  simp only [step, true_and]
  refine Store.upd_ent_proj id ?_ k'
  simp only [id, List.erase_of_not_mem h]

/-- after a remove the child is gone (children are a set) -/
theorem remove_then_absent (b : Backend) (hash : Key → Nat) (s : Store) (wf : WF s) (k : Key) (c : Bytes) :
    (step b hash (step b hash s (.premove k c)).1 (.pcontains k c)).2 = .bool false := by
  simp [step, (wf.nodupCh k).not_mem_erase]

/-- the simple and prefix keyspaces of a key are independent -/
theorem keyspaces_independent (b : Backend) (hash : Key → Nat) (s : Store) (k k' : Key)
    (v : Option Bytes) (c : Bytes) :
    ((step b hash s (.put k v)).1.ent k').children = (s.ent k').children ∧
    ((step b hash s (.delete k)).1.ent k').children = (s.ent k').children ∧
    ((step b hash s (.pappend k c)).1.ent k').simple = (s.ent k').simple ∧
    ((step b hash s (.premove k c)).1.ent k').simple = (s.ent k').simple := by
  simp only [step]
  refine ⟨Store.upd_ent_proj (·.children) rfl k', Store.upd_ent_proj (·.children) rfl k', ?_,
    Store.upd_ent_proj (·.simple) rfl k'⟩
  by_cases m : c ∈ (s.ent k).children
  · simp only [if_pos m]
  · simp only [if_neg m]; exact Store.upd_ent_proj (·.simple) rfl k'

/-- which kinds of data an entry shows in a listing of back-end `b` -/
def hasKind (b : Backend) (e : Entry) : Kind → Bool
  | .simple => listsSimple b e
  | .pfx => !e.children.isEmpty
  | .lease => e.lease != 0

theorem mem_kindsOf (b : Backend) (k k' : Key) (e : Entry) (kd : Kind) :
    (k', kd) ∈ kindsOf b k e ↔ k' = k ∧ hasKind b e kd = true := by
  simp only [kindsOf, List.mem_append, List.mem_ite_nil_left, List.mem_ite_nil_right, List.mem_singleton,
    Prod.mk.injEq]
  cases kd <;> simp [hasKind, and_comm]

/-- listings report exactly the kinds of data present (under the prefix) -/
theorem listKeys_kinds_exact (b : Backend) (s : Store) (wf : WF s) (pre : Bytes) (k : Key) (kd : Kind) :
    (k, kd) ∈ listKeys b s pre ↔ pre.isPrefixOf k = true ∧ hasKind b (s.ent k) kd = true := by
  unfold listKeys
  simp only [List.mem_flatMap, List.mem_filter, mem_kindsOf]
  constructor
  · rintro ⟨k0, ⟨_, hp⟩, rfl, hk⟩
    exact ⟨hp, hk⟩
  · rintro ⟨hp, hk⟩
    refine ⟨k, ⟨wf.mem_dom fun e => ?_, hp⟩, rfl, hk⟩
    rw [e] at hk
    cases kd <;> cases b <;> cases hk

/-- memory/aof: SIMPLE is listed exactly for a non-empty value (empty ≡ absent) -/
theorem listsSimple_memory (b : Backend) (hb : b.isSql = false) (e : Entry) :
    listsSimple b e = (norm e.simple).isSome :=
  listsSimple_eq b e fun q => absurd (hb ▸ q) nofun

/-! ## non-vacuity -/

/-- a history over all three keyspaces with listings in between, collisions irrelevant here; the hypotheses of
`refines_contract` hold and the answers are non-trivial -/
example : run (step .memory (fun _ => 7)) Store.init
    [.put [1] (some [9]), .put [1] (some []), .get [1], .pappend [1] [2], .pappend [1] [2], .listKeys [],
     .acquire [1] 1500000000 100, .acquire [1] 1000000000 200, .renew [1] 1000000000 1000000100 1000000100,
     .release [1] 2000000100, .premove [1] [2], .listKeys []] =
    [.ok, .ok, .value (some []), .ok, .prefixConflict, .kinds [([1], .pfx)],
     .token 1000000100, .leaseConflict, .token 2000000100, .ok, .ok, .kinds []] := by decide +kernel

example : (step .sqlite (fun _ => 0) (step .sqlite (fun _ => 0) Store.init (.put [1] none)).1 (.listKeys [])).2
    = .kinds [([1], .simple)] := by decide +kernel

/-! ## F tie: the SQL text the sqlite model stands for (regenerated from kv/sqlite3 on every run) -/

/-- The hand-written sqlite model (`Backend.sqlite` branches of `Specter.Kv`) was written against
exactly these statements: upserts on the primary key, `ON CONFLICT DO NOTHING` for children,
acquire `WHERE token <= ?`, renew `token = ? AND token > ?`, release by (owner, token), the two
range queries, the four per-table deletes of RemoveKeys and the three tracker flags. A change of
any of them invalidates this theorem when the generated text is re-checked. -/
theorem sql_expected :
    Gen.C16.queries = [
      ("querySimplePut", "INSERT INTO `simple_entries` (`key`, `value`) VALUES (?, ?) ON CONFLICT(`key`) DO UPDATE SET `value` = excluded.`value`"),
      ("querySimpleGet", "SELECT `value` FROM `simple_entries` WHERE `key` = ?"),
      ("querySimpleDel", "DELETE FROM `simple_entries` WHERE `key` = ?"),
      ("queryPrefixAppend", "INSERT INTO `prefix_entries` (`prefix`, `child`) VALUES (?, ?) ON CONFLICT DO NOTHING"),
      ("queryPrefixContains", "SELECT 1 FROM `prefix_entries` WHERE `prefix` = ? AND `child` = ? LIMIT 1"),
      ("queryPrefixList", "SELECT `child` FROM `prefix_entries` WHERE `prefix` = ?"),
      ("queryPrefixRemove", "DELETE FROM `prefix_entries` WHERE `prefix` = ? AND `child` = ?"),
      ("queryPrefixCount", "SELECT COUNT(*) FROM `prefix_entries` WHERE `prefix` = ?"),
      ("queryLeaseAcquire", "INSERT INTO `lease_entries` (`owner`, `token`) VALUES (?, ?) ON CONFLICT(`owner`) DO UPDATE SET `token` = excluded.`token` WHERE `token` <= ?"),
      ("queryLeaseRenew", "UPDATE `lease_entries` SET `token` = ? WHERE `owner` = ? AND `token` = ? AND `token` > ?"),
      ("queryLeaseRelease", "DELETE FROM `lease_entries` WHERE `owner` = ? AND `token` = ?"),
      ("queryLeaseGet", "SELECT `token` FROM `lease_entries` WHERE `owner` = ?"),
      ("queryLeaseImport", "INSERT INTO `lease_entries` (`owner`, `token`) VALUES (?, ?) ON CONFLICT(`owner`) DO UPDATE SET `token` = excluded.`token`"),
      ("queryTrackerLookup", "SELECT `hash`, `flags` FROM `key_trackers` WHERE `key` = ?"),
      ("queryTrackerInsert", "INSERT INTO `key_trackers` (`key`, `hash`, `flags`) VALUES (?, ?, ?)"),
      ("queryTrackerUpdate", "UPDATE `key_trackers` SET `flags` = ? WHERE `key` = ?"),
      ("queryTrackerDelete", "DELETE FROM `key_trackers` WHERE `key` = ?"),
      ("queryListKeys", "SELECT `key`, `flags` FROM `key_trackers`"),
      ("queryRangeKeysNorm", "SELECT `key` FROM `key_trackers` WHERE (`hash` > ? AND `hash` < ?) OR `hash` = ? ORDER BY `hash` ASC"),
      ("queryRangeKeysWrap", "SELECT `key` FROM `key_trackers` WHERE `hash` > ? OR `hash` < ? OR `hash` = ? ORDER BY `hash` ASC")] ∧
    Gen.C16.removeKeysSql = ["DELETE FROM `simple_entries` WHERE `key` IN (", "DELETE FROM `prefix_entries` WHERE `prefix` IN (", "DELETE FROM `lease_entries` WHERE `owner` IN (", "DELETE FROM `key_trackers` WHERE `key` IN ("] ∧
    Gen.C16.trackerFlags = ["SimpleFlag", "PrefixFlag", "LeaseFlag"] := ⟨rfl, rfl, rfl⟩

end Specter.Kv
