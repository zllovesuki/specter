import SpecterModel.C11.Gen
import SpecterModel.C11.Spec
/-!
# C11 — Identifier arithmetic implements the 2^48 ring exactly

Property theorems over the *generated* translation of `spec/chord/chord.go`
(`Gen.C11`, regenerated from /repo on every run; when the regenerated text differs from the
committed one, this file is re-checked against the new text).

Spec: clockwise distance on the ring `dist a b = (b + M - a) % M`, `M = 2^48`.
`inOpen l t h`  : t lies strictly inside the arc that starts after l and ends before h;
                  when l = h the arc is the full circle minus l.
-/
namespace Specter.C11
open Gen.C11

theorem maxId_toNat : MaxIdentitifer.toNat = 2^48 := by decide

/-- Nat-level view of the generated `Between`. -/
def natBetween (low target high : Nat) (incl : Bool) : Bool :=
  if high > low then (decide (low < target) && decide (target < high)) || (incl && target == high)
  else decide (low < target) || decide (target < high) || (incl && target == high)

theorem beq_toNat (t h : BitVec 64) : (t == h) = (t.toNat == h.toNat) := by
  rw [Bool.eq_iff_iff]; simp [BitVec.toNat_inj]

/-- Bridge: the generated BitVec definition is the Nat definition on `toNat`. -/
theorem between_nat (l t h : BitVec 64) (i : Bool) :
    Between l t h i = natBetween l.toNat t.toNat h.toNat i := by
  unfold Between natBetween
  simp only [BitVec.lt_def, gt_iff_lt, beq_toNat]
  rw [Bool.eq_iff_iff]   -- semantic, so that harmless re-orderings of the Go expression still re-check
  cases i <;> by_cases c : l.toNat < h.toNat <;> simp [c] <;> omega

theorem dist_cases (a b : Nat) (ha : a < M) (hb : b < M) :
    (a ≤ b ∧ dist a b = b - a) ∨ (b < a ∧ dist a b = b + M - a) := by
  unfold dist
  rcases Nat.lt_or_ge b a with h | h
  · exact .inr ⟨h, Nat.mod_eq_of_lt (by omega)⟩
  · refine .inl ⟨h, ?_⟩
    rw [show b + M - a = b - a + M by omega, Nat.add_mod_right, Nat.mod_eq_of_lt (by omega)]

theorem natBetween_open_iff (l t h : Nat) (hl : l < M) (ht : t < M) (hh : h < M) :
    natBetween l t h false = true ↔ inOpen l t h := by
  have := dist_cases l t hl ht; have := dist_cases l h hl hh
  unfold natBetween inOpen
  split <;> simp only [Bool.false_and, Bool.or_false, Bool.and_eq_true, Bool.or_eq_true, decide_eq_true_eq] <;> omega

theorem natBetween_closed (l t h : Nat) :
    natBetween l t h true = (natBetween l t h false || t == h) := by
  unfold natBetween; split <;> simp

theorem natBetween_closed_iff (l t h : Nat) (hl : l < M) (ht : t < M) (hh : h < M) :
    natBetween l t h true = true ↔ inClosed l t h := by
  rw [natBetween_closed, Bool.or_eq_true, natBetween_open_iff l t h hl ht hh, beq_iff_eq]; rfl

theorem natBetween_self (l t : Nat) : natBetween l t l true = true := by
  unfold natBetween; simp; omega

/-- C11 (open interval): for all ring identifiers, `Between … false` is exactly membership in the
open circular interval, including wrap-around and the full-circle case `low = high`. -/
theorem between_open_spec (l t h : BitVec 64) (hl : l.toNat < M) (ht : t.toNat < M) (hh : h.toNat < M) :
    Between l t h false = true ↔ inOpen l.toNat t.toNat h.toNat := by
  rw [between_nat]; exact natBetween_open_iff _ _ _ hl ht hh

/-- C11 (right-closed interval): `Between … true` is exactly membership in `(l, h]`, everything when `l = h`. -/
theorem between_closed_spec (l t h : BitVec 64) (hl : l.toNat < M) (ht : t.toNat < M) (hh : h.toNat < M) :
    Between l t h true = true ↔ inClosed l.toNat t.toNat h.toNat := by
  rw [between_nat]; exact natBetween_closed_iff _ _ _ hl ht hh

/-- full circle, open: everything except `l` itself (no range hypothesis needed) -/
theorem between_full_circle_open (l t : BitVec 64) : Between l t l false = true ↔ t ≠ l := by
  rw [between_nat]; unfold natBetween
  have : t ≠ l ↔ t.toNat ≠ l.toNat := by simp [BitVec.toNat_inj]
  rw [this]; simp; omega

theorem between_full_circle_closed (l t : BitVec 64) : Between l t l true = true := by
  rw [between_nat]; exact natBetween_self _ _

/-- `ModuloSum` never overflows and equals `(x+y) mod 2^48` for ALL uint64 x, y. -/
theorem moduloSum_exact (x y : BitVec 64) :
    (ModuloSum x y).toNat = (x.toNat + y.toNat) % 2^48 := by
  unfold ModuloSum
  simp only [BitVec.toNat_umod, BitVec.toNat_add, maxId_toNat]
  have hx := x.isLt; have hy := y.isLt
  omega

theorem moduloSum_lt (x y : BitVec 64) : (ModuloSum x y).toNat < M := by
  rw [moduloSum_exact]; unfold M; omega

/-- Whatever 64-bit digest xxh3 returns, `Hash` lands in the identifier space and is the digest mod 2^48. -/
theorem hash_in_space (digest : BitVec 64) :
    (Hash digest).toNat < M ∧ (Hash digest).toNat = digest.toNat % 2^48 := by
  have h : (Hash digest).toNat = digest.toNat % 2^48 := by
    unfold Hash; rw [BitVec.toNat_umod, maxId_toNat]
  refine ⟨?_, h⟩
  rw [h]; exact Nat.mod_lt _ (by decide)

/-- non-vacuity: concrete wrap-around instances satisfy the hypotheses and both directions. -/
example : Between (2^48-1 : Nat) 0 5 false = true ∧ inOpen (2^48-1) 0 5 := by decide
example : Between 5#64 5#64 5#64 false = false ∧ ¬ inOpen 5 5 5 := by decide
example : (ModuloSum (BitVec.ofNat 64 (2^64-1)) (BitVec.ofNat 64 (2^64-1))).toNat = (2^64-1 + (2^64-1)) % 2^48 := by decide

end Specter.C11
