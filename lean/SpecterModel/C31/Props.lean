import SpecterModel.C31.Model
import SpecterModel.Guard
/-!
# C31 — Proof-of-work checks accept exactly the valid proofs

Theorems about the model in `Model.lean` (tied to `/repo` differentially by `harness/cmd/c31`).
External: `sha` (SHA-256) is an arbitrary function returning bytes; `sigOK` is the verdict of `ed25519.Verify`;
`b64` (`base64.RawURLEncoding`) is an arbitrary function with non-empty, ':'-free output (validated by the harness).

* `verifyBits_iff`        — the bit test = "at least `bits` leading zero bits", all bit counts, all hashes
* `verifySolution_iff`    — exact acceptance condition of `pow.VerifySolution`
* `parse_toStr`           — `Parse(String(h)) = h` for well-formed stamps
* `solve_sound`, `solved_proof_accepted` — what the solver returns is accepted under the same parameters
* `hcVerify_names_subject`, `proof_serves_one_subject` — an accepted proof names the expected subject and serves no other
* `solve_stale_eq_fresh`, `resolved_proof_accepted` — `Solve` on a stamp that already carries a solution
-/
namespace Specter.C31

theorem byteBits_length (b : Nat) : (byteBits b).length = 8 := rfl

theorem byteBits_lz : ∀ b, b < 256 →
    ((byteBits b).takeWhile (· == false)).length = if b = 0 then 8 else 7 - b.log2 := by decide +kernel

theorem lzb_nil : leadingZeroBits [] = 0 := rfl

theorem lzb_cons {b : Nat} (hb : b < 256) (rest : Bytes) :
    leadingZeroBits (b :: rest) = if b = 0 then 8 + leadingZeroBits rest else 7 - b.log2 := by
  have hz := byteBits_lz b hb
  unfold leadingZeroBits bitsOf
  rw [List.flatMap_cons, List.takeWhile_append, hz, byteBits_length]
  split
  · rw [if_pos rfl, List.length_append, byteBits_length]
  · rw [if_neg (by omega), hz, if_neg ‹_›]

theorem lzb_le (h : Bytes) : leadingZeroBits h ≤ 8 * h.length := by
  have : (bitsOf h).length = 8 * h.length := by
    induction h with
    | nil => rfl
    | cons b t ih => rw [bitsOf, List.flatMap_cons, List.length_append, ← bitsOf, ih, byteBits_length, List.length_cons]; omega
  exact this ▸ (List.takeWhile_prefix _).length_le

theorem le_lzb_cons_of_gt {b : Nat} (hb : b < 256) (rest : Bytes) {bits : Nat} (h : 8 < bits) :
    bits ≤ leadingZeroBits (b :: rest) ↔ b = 0 ∧ bits - 8 ≤ leadingZeroBits rest := by
  rw [lzb_cons hb]; split <;> simp [*] <;> omega

/-- the last byte looked at: `0 == hash[i]>>pad` tests its top `r` bits -/
theorem le_lzb_cons_of_le {b : Nat} (hb : b < 256) (rest : Bytes) {r : Nat} (h1 : 1 ≤ r) (h8 : r ≤ 8) :
    r ≤ leadingZeroBits (b :: rest) ↔ b >>> (8 - r) = 0 := by
  rw [lzb_cons hb]
  split
  · next hz => simp [hz]; omega
  · next hz =>
    rw [Nat.shiftRight_eq_div_pow, Nat.div_eq_zero_iff_lt (Nat.two_pow_pos _), ← Nat.log2_lt hz]
    omega

theorem verifyBitsLoop_cons (b : Nat) (hash : Bytes) (fuel i bits : Nat) :
    verifyBitsLoop (b :: hash) fuel (i + 1) bits = verifyBitsLoop hash fuel i bits := by
  induction fuel generalizing i bits with
  | zero => simp [verifyBitsLoop]
  | succ f ih => simp only [verifyBitsLoop, List.getElem?_cons_succ, ih]

theorem nBytes_spec (bits : Nat) : bits ≤ 8 * nBytes bits ∧ 8 * nBytes bits < bits + 8 := by
  unfold nBytes; split <;> omega

/-- `hbits`: `n` is the number of bytes that hold `bits` bits. -/
theorem verifyBitsLoop_iff (hash : Bytes) (hb : ∀ b ∈ hash, b < 256) (n bits : Nat)
    (hbits : 1 ≤ bits ∧ bits ≤ 8 * n ∧ 8 * n < bits + 8) (hn : n ≤ hash.length) :
    verifyBitsLoop (hash.take n) n 0 bits = some (decide (bits ≤ leadingZeroBits hash)) := by
  induction hash generalizing n bits with
  | nil => have := Nat.le_zero.mp hn; omega
  | cons b rest ih =>
    have hb0 := hb b List.mem_cons_self
    cases n with
    | zero => omega
    | succ m =>
    simp only [List.take_succ_cons, verifyBitsLoop, List.getElem?_cons_zero]
    by_cases hbig : 8 < bits
    · rw [if_pos hbig, verifyBitsLoop_cons, ih (fun x hx => hb x (List.mem_cons_of_mem _ hx)) m (bits - 8) (by omega)
        (Nat.le_of_succ_le_succ hn)]
      simp only [le_lzb_cons_of_gt hb0 rest hbig]
      by_cases hz : b = 0 <;> simp [hz]
    · obtain rfl : m = 0 := by omega
      simp only [if_neg hbig, le_lzb_cons_of_le hb0 rest hbits.1 (by omega), verifyBitsLoop]
      split <;> simp [*]

/-- **C31 bit test.**  For ALL bit counts and ALL byte strings long enough to hold them, `verifyBits` as called by
`Verify`/`Solve` (`hash[:n]`, `n = ⌈bits/8⌉`) is exactly "the hash starts with at least `bits` zero bits". -/
theorem verifyBits_iff (hash : Bytes) (bits : Nat) (hb : ∀ b ∈ hash, b < 256) (hn : nBytes bits ≤ hash.length) :
    verifyBits (hash.take (nBytes bits)) bits (nBytes bits) = some (decide (bits ≤ leadingZeroBits hash)) := by
  unfold verifyBits
  by_cases h0 : bits = 0
  · simp [h0]
  · rw [if_neg h0]
    exact verifyBitsLoop_iff hash hb _ bits ⟨by omega, nBytes_spec bits⟩ hn

/-- The bit test together with its length guard (`hash[:n]` panics), as `Verify` and `Solve` make it. -/
theorem bitTest_iff (hash : Bytes) (hb : ∀ b ∈ hash, b < 256) (bits : Nat) :
    nBytes bits ≤ hash.length ∧ verifyBits (hash.take (nBytes bits)) bits (nBytes bits) = some true ↔
      bits ≤ leadingZeroBits hash := by
  constructor
  · rintro ⟨hn, hv⟩
    rw [verifyBits_iff hash bits hb hn] at hv
    simpa using hv
  · intro hd
    -- enough zero bits imply enough bytes, so the guard says nothing more
    have hn : nBytes bits ≤ hash.length := by
      have := lzb_le hash; have := nBytes_spec bits; omega
    exact ⟨hn, by rw [verifyBits_iff hash bits hb hn]; simpa using hd⟩

theorem parseDigits_append (acc : Nat) (l : Bytes) (d : Nat) (hd : isDigit d = true) :
    parseDigits acc (l ++ [d]) = (parseDigits acc l).map (fun a => a * 10 + (d - 48)) := by
  induction l generalizing acc with
  | nil => simp [parseDigits, hd]
  | cons c cs ih => simp only [List.cons_append, parseDigits]; split <;> simp [ih]

theorem dec_step (n : Nat) (h : ¬ n < 10) : dec n = dec (n / 10) ++ [48 + n % 10] := by
  unfold dec; rw [decRev, if_neg h]; simp

theorem dec_small (n : Nat) (h : n < 10) : dec n = [48 + n] := by
  unfold dec; rw [decRev, if_pos h]; rfl

theorem parseDigits_dec (n : Nat) : parseDigits 0 (dec n) = some n := by
  induction n using Nat.strongRecOn with
  | ind n ih =>
    by_cases h : n < 10
    · rw [dec_small n h]; simp [parseDigits, isDigit]; omega
    · rw [dec_step n h, parseDigits_append _ _ _ (by simp [isDigit]; omega), ih (n / 10) (by omega)]
      simp; omega

theorem dec_ne_nil (n : Nat) : dec n ≠ [] := by
  by_cases h : n < 10
  · rw [dec_small n h]; simp
  · rw [dec_step n h]; simp

theorem parseDigits_digits {acc v : Nat} {l : Bytes} (h : parseDigits acc l = some v) : ∀ c ∈ l, isDigit c = true := by
  fun_induction parseDigits acc l with
  | case1 => simp
  | case2 acc c cs hc ih => simpa [hc] using ih h
  | case3 => cases h

theorem dec_digits (n : Nat) : ∀ c ∈ dec n, isDigit c = true := parseDigits_digits (parseDigits_dec n)

theorem parseNat_dec (n : Nat) : parseNat (dec n) = some n := by
  unfold parseNat; rw [if_neg (dec_ne_nil n)]; exact parseDigits_dec n

theorem dec_injective (a b : Nat) (h : dec a = dec b) : a = b := by
  have ha := parseNat_dec a; rw [h, parseNat_dec b] at ha; exact (Option.some.inj ha).symm

theorem parseGoInt_dec (n : Nat) (h : n < 2^63) : parseGoInt (dec n) = some (n : Int) := by
  have hd := dec_digits n
  unfold parseGoInt
  split
  · next r heq => exact absurd (hd 43 (heq ▸ List.mem_cons_self)) (by decide)
  · next r heq => exact absurd (hd 45 (heq ▸ List.mem_cons_self)) (by decide)
  · rw [parseNat_dec]; simp [h]

theorem split1_append (sep : Nat) (p s : Bytes) (h : sep ∉ p) :
    split1 sep (p ++ s) = (p ++ (split1 sep s).1, (split1 sep s).2) := by
  induction p with
  | nil => rfl
  | cons c cs ih =>
    have hc : c ≠ sep := fun e => h (by simp [e])
    have hcs : sep ∉ cs := fun m => h (by simp [m])
    simp [split1, hc, ih hcs]

theorem splitOn_join (sep : Nat) (p : Bytes) (ps : List Bytes) (h : ∀ q ∈ p :: ps, sep ∉ q) :
    splitOn sep (join sep (p :: ps)) = p :: ps := by
  induction ps generalizing p with
  | nil =>
    have := split1_append sep p [] (h p List.mem_cons_self)
    rw [List.append_nil] at this
    simp [join, splitOn, this, split1]
  | cons q qs ih =>
    have := ih q fun x hx => h x (List.mem_cons_of_mem _ hx)
    simp only [splitOn] at this
    simp [join, splitOn, split1_append sep p _ (h p List.mem_cons_self), split1, this]

theorem colon_not_digit (n : Nat) : colon ∉ dec n := fun h => by
  have := dec_digits n colon h; simp [isDigit, colon] at this

/-- well-formed stamp: what `New` + `Solve` produce (fields without ':', numbers in int64 range) -/
structure WF (h : Hashcash) : Prop where
  diff : h.difficulty < 2^63
  exp : ∀ e, h.expiresAt = some e → e < 2^63
  sub : colon ∉ h.subject
  nonce : colon ∉ h.nonce
  alg : colon ∉ h.alg
  sol : colon ∉ h.solution

theorem parseExp_expStr (x : Option Nat) (hx : ∀ e, x = some e → e < 2^63) : parseExp (expStr x) = some x := by
  cases x with
  | none => simp [parseExp, expStr]
  | some e =>
    simp only [expStr, parseExp, if_neg (dec_ne_nil e), parseGoInt_dec e (hx e rfl)]
    simp

theorem colon_not_expStr (x : Option Nat) : colon ∉ expStr x := by
  cases x with
  | none => simp [expStr]
  | some e => exact colon_not_digit e

theorem parseFields_ok (h : Hashcash) (w : WF h) :
    parseFields tagH (dec h.difficulty) (expStr h.expiresAt) h.subject h.nonce h.alg h.solution = .ok h := by
  unfold parseFields
  rw [if_neg (by simp), parseGoInt_dec _ w.diff]
  simp only [parseExp_expStr _ w.exp]
  rw [if_neg (by omega)]; simp

/-- `Parse(h.String()) = h` for every well-formed stamp (solved or not) -/
theorem parse_toStr (h : Hashcash) (w : WF h) : parse (toStr h) = .ok h := by
  have hparts : ∀ q ∈ [tagH, dec h.difficulty, expStr h.expiresAt, h.subject, h.nonce, h.alg, h.solution], colon ∉ q := by
    simp only [List.forall_mem_cons, List.not_mem_nil, false_imp_iff, implies_true, and_true]
    exact ⟨by decide, colon_not_digit _, colon_not_expStr _, w.sub, w.nonce, w.alg, w.sol⟩
  unfold parse toStr
  by_cases hs : h.solution = []
  · have hparts' : ∀ q ∈ [tagH, dec h.difficulty, expStr h.expiresAt, h.subject, h.nonce, h.alg], colon ∉ q :=
      fun q hq => hparts q (List.mem_append_left [h.solution] hq)
    rw [if_pos hs, List.append_nil, splitOn_join colon _ _ hparts']
    simp only; rw [← hs]; exact parseFields_ok h w
  · have e : join colon [tagH, dec h.difficulty, expStr h.expiresAt, h.subject, h.nonce, h.alg] ++ colon :: h.solution
        = join colon [tagH, dec h.difficulty, expStr h.expiresAt, h.subject, h.nonce, h.alg, h.solution] := by
      simp [join]
    rw [if_neg hs, e, splitOn_join colon _ _ hparts]
    exact parseFields_ok h w

/-- `Time.Sub` saturates at the ends of the int64 range; a comparison with a threshold inside the range does not notice. -/
theorem satDur_lt_iff (d : Int) {c : Int} (h1 : minDur < c) (h2 : c ≤ maxDur) : satDur d < c ↔ d < c := by
  unfold satDur minDur maxDur at *; omega

theorem satDur_gt_iff (d : Int) {c : Int} (h1 : minDur ≤ c) (h2 : c < maxDur) : satDur d > c ↔ d > c := by
  have := satDur_lt_iff d (c := c + 1) (by omega) (by omega); omega

theorem absDur_gt_iff (x : Int) {c : Int} (h0 : 0 ≤ c) (h : c < maxDur) : absDur x > c ↔ x < -c ∨ x > c := by
  unfold absDur minDur maxDur at *; omega

theorem window_iff (d : Int) (E : Nat) (hE : 2 * (E : Int) < 2^63 - 1) :
    absDur (satDur d) > 2 * (E : Int) ↔ (d < -(2 * (E : Int)) ∨ d > 2 * (E : Int)) := by
  rw [absDur_gt_iff _ (by omega) hE, satDur_lt_iff d (by unfold minDur; omega) (by unfold maxDur; omega),
    satDur_gt_iff d (by unfold minDur; omega) hE]

theorem expired_some (e : Nat) (now : Int) : expired (some e) now = false ↔ now ≤ expNs e := by
  simp [expired, satDur_lt_iff (c := 0) _ (by decide) (by decide)]

/-- no hypothesis on `sha`: the bit test stands as it is called -/
theorem hcVerify_guards (sha : Bytes → Bytes) (h : Hashcash) (subject : Bytes) (now : Int) :
    hcVerify sha h subject now = .ok () ↔
      h.alg = algSHA256 ∧ expired h.expiresAt now = false ∧ h.subject = subject ∧
      nBytes h.difficulty ≤ (sha (toStr h)).length ∧
      verifyBits ((sha (toStr h)).take (nBytes h.difficulty)) h.difficulty (nBytes h.difficulty) = some true := by
  simp only [hcVerify, guard_eq_iff, ne_eq, reduceCtorEq, not_false_eq_true, Decidable.not_not, Bool.not_eq_true,
    Nat.not_lt, eq_comm (a := subject)]
  split <;> simp [*]

theorem hcVerify_ok_iff (sha : Bytes → Bytes) (hsha : ∀ s, ∀ b ∈ sha s, b < 256) (h : Hashcash) (subject : Bytes) (now : Int) :
    hcVerify sha h subject now = .ok () ↔
      h.alg = algSHA256 ∧ expired h.expiresAt now = false ∧ h.subject = subject ∧
      h.difficulty ≤ leadingZeroBits (sha (toStr h)) := by
  rw [hcVerify_guards, bitTest_iff _ (hsha _)]

theorem verifyParsed_guards (sha : Bytes → Bytes) (h : Hashcash) (required expiresNs : Nat) (subject : Bytes) (now1 now2 : Int) :
    verifyParsed sha h required expiresNs subject now1 now2 = .ok ↔
      h.difficulty = required ∧ ∃ e, h.expiresAt = some e ∧
        ¬ absDur (satDur (now1 - expNs e)) > 2 * (expiresNs : Int) ∧ hcVerify sha h subject now2 = .ok () := by
  constructor
  · fun_cases verifyParsed sha h required expiresNs subject now1 now2
    all_goals intro hok; cases hok
    · next hd e he hw hv => exact ⟨Decidable.not_not.1 hd, e, he, hw, hv⟩
  · rintro ⟨hd, e, he, hw, hv⟩
    simp [verifyParsed, hd, he, hw, hv]

/-- an empty solution does not parse, so the `solution = []` guard adds nothing -/
theorem verifySolution_guards (sha : Bytes → Bytes) (pubLen sigLen : Nat) (solution : Bytes) (sigOK : Bool)
    (required expiresNs : Nat) (subject : Bytes) (now1 now2 : Int) :
    verifySolution sha pubLen sigLen solution sigOK required expiresNs subject now1 now2 = .ok ↔
      pubLen = 32 ∧ sigLen = 64 ∧ sigOK = true ∧
      ∃ h, parse solution = .ok h ∧ verifyParsed sha h required expiresNs subject now1 now2 = .ok := by
  simp only [verifySolution, guard_eq_iff, ne_eq, reduceCtorEq, not_false_eq_true, Decidable.not_not, Bool.not_eq_true,
    Bool.not_eq_false']
  by_cases h3 : solution = []
  · subst h3; simp [show parse [] = .error .parts from rfl]
  · cases parse solution <;> simp [h3]

/-- **C31 acceptance condition.** `VerifySolution` returns success exactly when: key/signature have ed25519 sizes, the
signature over the solution string verifies under the presented key, the solution parses as a hashcash stamp `h` whose
difficulty is the required one, whose expiry `e` is set, not before `now2` (not expired) and at most `2·Expires` after `now1`
(within the window), whose algorithm is SHA-256, whose subject is the expected one, and SHA-256 of the canonical stamp string
starts with at least `required` zero bits.  (`now1`, `now2` are the clock readings of
`VerifySolution` and of `Verify`; no order between them is assumed.) -/
theorem verifySolution_iff (sha : Bytes → Bytes) (hsha : ∀ s, ∀ b ∈ sha s, b < 256)
    (pubLen sigLen : Nat) (solution : Bytes) (sigOK : Bool) (required expiresNs : Nat) (subject : Bytes) (now1 now2 : Int)
    (hE : 2 * (expiresNs : Int) < 2^63 - 1) :
    verifySolution sha pubLen sigLen solution sigOK required expiresNs subject now1 now2 = .ok ↔
      pubLen = 32 ∧ sigLen = 64 ∧ sigOK = true ∧
      ∃ h e, parse solution = .ok h ∧ h.difficulty = required ∧ h.expiresAt = some e ∧
        expNs e - 2 * (expiresNs : Int) ≤ now1 ∧ now1 ≤ expNs e + 2 * (expiresNs : Int) ∧ now2 ≤ expNs e ∧
        h.alg = algSHA256 ∧ h.subject = subject ∧ required ≤ leadingZeroBits (sha (toStr h)) := by
  rw [verifySolution_guards]
  simp only [verifyParsed_guards, hcVerify_ok_iff sha hsha, window_iff _ _ hE]
  constructor
  · rintro ⟨h1, h2, h4, h, hp, hd, e, he, hw, ha, hx, hs, hl⟩
    rw [he, expired_some] at hx
    exact ⟨h1, h2, h4, h, e, hp, hd, he, by omega, by omega, hx, ha, hs, hd ▸ hl⟩
  · rintro ⟨h1, h2, h4, h, e, hp, hd, he, hw1, hw2, hx, ha, hs, hl⟩
    exact ⟨h1, h2, h4, h, hp, hd, e, he, by omega, ha, by rwa [he, expired_some], hs, hd ▸ hl⟩

/-! ## the proof names the expected subject (no hypotheses about SHA-256, the clock or the window) -/

/-- `Hashcash.Verify(subject)` succeeds only on a stamp whose own subject field IS `subject` — for every stamp subject,
including the default that `New` writes for an empty one and anything that looks like a pattern. -/
theorem hcVerify_names_subject (sha : Bytes → Bytes) (h : Hashcash) (subject : Bytes) (now : Int)
    (hok : hcVerify sha h subject now = .ok ()) : h.subject = subject :=
  ((hcVerify_guards sha h subject now).mp hok).2.2.1

/-- a stamp that `Verify` accepts for one subject is rejected for every other subject (at any instants) -/
theorem hcVerify_subject_unique (sha : Bytes → Bytes) (h : Hashcash) (s1 s2 : Bytes) (n1 n2 : Int)
    (h1 : hcVerify sha h s1 n1 = .ok ()) (h2 : hcVerify sha h s2 n2 = .ok ()) : s1 = s2 :=
  (hcVerify_names_subject sha h s1 n1 h1).symm.trans (hcVerify_names_subject sha h s2 n2 h2)

/-- an accepted proof carries a stamp that names the expected subject -/
theorem accepted_names_subject (sha : Bytes → Bytes) (pubLen sigLen : Nat) (solution : Bytes) (sigOK : Bool)
    (required expiresNs : Nat) (subject : Bytes) (now1 now2 : Int)
    (hok : verifySolution sha pubLen sigLen solution sigOK required expiresNs subject now1 now2 = .ok) :
    ∃ h, parse solution = .ok h ∧ h.subject = subject := by
  obtain ⟨_, _, _, h, hp, hv⟩ := (verifySolution_guards ..).mp hok
  obtain ⟨_, _, _, _, hv⟩ := (verifyParsed_guards ..).mp hv
  exact ⟨h, hp, hcVerify_names_subject sha h subject now2 hv⟩

/-- one piece of work serves one subject: the same solution string — whoever signs it, whichever key presents it, under
whatever difficulty / window parameters and at whatever instants — is never accepted for two different expected subjects. -/
theorem proof_serves_one_subject (sha : Bytes → Bytes) (solution : Bytes)
    (pubLen sigLen : Nat) (sigOK : Bool) (required expiresNs : Nat) (s1 : Bytes) (a1 a2 : Int)
    (pubLen' sigLen' : Nat) (sigOK' : Bool) (required' expiresNs' : Nat) (s2 : Bytes) (b1 b2 : Int)
    (h1 : verifySolution sha pubLen sigLen solution sigOK required expiresNs s1 a1 a2 = .ok)
    (h2 : verifySolution sha pubLen' sigLen' solution sigOK' required' expiresNs' s2 b1 b2 = .ok) : s1 = s2 := by
  obtain ⟨h, hp, hs⟩ := accepted_names_subject sha pubLen sigLen solution sigOK required expiresNs s1 a1 a2 h1
  obtain ⟨h', hp', hs'⟩ := accepted_names_subject sha pubLen' sigLen' solution sigOK' required' expiresNs' s2 b1 b2 h2
  rw [hp] at hp'
  cases hp'
  exact hs.symm.trans hs'

/-! ## Solve -/

theorem solveLoop_sound (sha b64 : Bytes → Bytes) (pre : Bytes) (bits : Nat) (fuel c : Nat) (sol : Bytes)
    (h : solveLoop sha b64 pre bits fuel c = some sol) :
    (∃ c', sol = b64 (le32 c')) ∧ nBytes bits ≤ (sha (pre ++ colon :: sol)).length ∧
      verifyBits ((sha (pre ++ colon :: sol)).take (nBytes bits)) bits (nBytes bits) = some true := by
  induction fuel generalizing c with
  | zero => simp [solveLoop] at h
  | succ f ih =>
    simp only [solveLoop] at h
    split at h
    · next hc => cases h; exact ⟨⟨c, rfl⟩, hc⟩
    · exact ih _ h

theorem toStr_solved (h : Hashcash) (sol : Bytes) (hs : sol ≠ []) :
    toStr { h with solution := sol } = toStr { h with solution := [] } ++ colon :: sol := by
  simp [toStr, hs]

theorem isOk_iff (r : Except VErr Unit) : isOk r = true ↔ r = .ok () := by
  cases r <;> simp [isOk]

theorem solve_ok (sha b64 : Bytes → Bytes) (h h' : Hashcash) (maxD : Nat) (now : Int) (fuel : Nat) :
    solve sha b64 h maxD now fuel = .ok h' ↔
      h.alg = algSHA256 ∧ h.difficulty ≤ maxD ∧ h.difficulty ≤ maxDifficulty ∧
      if h.solution ≠ [] ∧ isOk (hcVerify sha h h.subject now) = true then h' = h
      else ∃ sol, solveLoop sha b64 (toStr { h with solution := [] }) h.difficulty fuel 0 = some sol ∧
        h' = { h with solution := sol } := by
  simp only [solve, guard_eq_iff, ne_eq, reduceCtorEq, not_false_eq_true, Decidable.not_not, not_or, Nat.not_lt,
    and_assoc]
  split
  · simp [eq_comm]
  · split <;> simp [*, eq_comm]

/-- **Solver output passes the bit test and keeps the parameters.**  Whatever stamp `Solve` returns (the fresh search or the
early return for an already valid solution) has the same difficulty/expiry/subject/nonce, algorithm SHA-256, and its
canonical string hashes to at least `difficulty` leading zero bits. -/
theorem solve_sound (sha b64 : Bytes → Bytes) (hsha : ∀ s, ∀ b ∈ sha s, b < 256) (hb64 : ∀ x, b64 x ≠ [])
    (h h' : Hashcash) (maxD : Nat) (now : Int) (fuel : Nat) (hs : solve sha b64 h maxD now fuel = .ok h') :
    h'.difficulty = h.difficulty ∧ h'.expiresAt = h.expiresAt ∧ h'.subject = h.subject ∧ h'.nonce = h.nonce ∧
      h'.alg = algSHA256 ∧ h.difficulty ≤ maxD ∧ h.difficulty ≤ maxDifficulty ∧
      h.difficulty ≤ leadingZeroBits (sha (toStr h')) := by
  obtain ⟨ha, hd1, hd2, hs⟩ := (solve_ok ..).mp hs
  split at hs
  · next hv =>
    subst hs
    exact ⟨rfl, rfl, rfl, rfl, ha, hd1, hd2, ((hcVerify_ok_iff sha hsha h' h'.subject now).mp ((isOk_iff _).mp hv.2)).2.2.2⟩
  · obtain ⟨sol, hl, rfl⟩ := hs
    obtain ⟨⟨c', hc'⟩, hvb⟩ := solveLoop_sound _ _ _ _ _ _ _ hl
    refine ⟨rfl, rfl, rfl, rfl, ha, hd1, hd2, ?_⟩
    rw [toStr_solved h sol (hc' ▸ hb64 _)]
    exact (bitTest_iff _ (hsha _) _).mp hvb

/-- the solution of a returned stamp is the old (well-formed) one or a base64 string: no ':' either way -/
theorem solve_solution_nocolon (sha b64 : Bytes → Bytes) (hb64 : ∀ x, colon ∉ b64 x)
    (h h' : Hashcash) (maxD : Nat) (now : Int) (fuel : Nat) (hsol : colon ∉ h.solution)
    (hs : solve sha b64 h maxD now fuel = .ok h') : colon ∉ h'.solution := by
  obtain ⟨_, _, _, hs⟩ := (solve_ok ..).mp hs
  split at hs
  · exact hs ▸ hsol
  · obtain ⟨sol, hl, rfl⟩ := hs
    obtain ⟨⟨c', hc'⟩, _⟩ := solveLoop_sound _ _ _ _ _ _ _ hl
    exact hc' ▸ hb64 _

/-- **Re-solved proofs are accepted.**  Start from ANY well-formed stamp `h` — unsolved, carrying a still valid solution, or
carrying a stale one (re-targeted after it was solved, or parsed with a foreign solution) — let `Solve` return `h'`, sign
`h'.String()` (hypothesis `sigOK = true` is ed25519 correctness) and present it to `VerifySolution` under `h`'s parameters
while `now1 ≤ now2 ≤ e` and `e ≤ now1 + 2·Expires`: it is accepted. -/
theorem resolved_proof_accepted (sha b64 : Bytes → Bytes) (hsha : ∀ s, ∀ b ∈ sha s, b < 256)
    (hb64 : ∀ x, b64 x ≠ [] ∧ colon ∉ b64 x)
    (h h' : Hashcash) (w : WF h) (maxD : Nat) (now0 : Int) (fuel : Nat)
    (hs : solve sha b64 h maxD now0 fuel = .ok h')
    (e : Nat) (he : h.expiresAt = some e) (expiresNs : Nat) (hE : 2 * (expiresNs : Int) < 2^63 - 1) (now1 now2 : Int)
    (hw1 : expNs e - 2 * (expiresNs : Int) ≤ now1) (hw2 : now1 ≤ now2) (hw3 : now2 ≤ expNs e) :
    verifySolution sha 32 64 (toStr h') true h.difficulty expiresNs h.subject now1 now2 = .ok := by
  obtain ⟨e1, e2, e3, e4, e5, _, _, e6⟩ := solve_sound sha b64 hsha (fun x => (hb64 x).1) h h' maxD now0 fuel hs
  have w' : WF h' :=
    ⟨e1 ▸ w.diff, e2 ▸ w.exp, e3 ▸ w.sub, e4 ▸ w.nonce, by rw [e5]; decide,
      solve_solution_nocolon sha b64 (fun x => (hb64 x).2) h h' maxD now0 fuel w.sol hs⟩
  exact (verifySolution_iff sha hsha 32 64 (toStr h') true h.difficulty expiresNs h.subject now1 now2 hE).mpr
    ⟨rfl, rfl, rfl, h', e, parse_toStr h' w', e1, by rw [e2, he], hw1, by omega, hw3, e5, e3, e6⟩

/-- **Solver-produced proofs are accepted.**  The same for a fresh stamp `h`, as built by `hashcash.New` in `GenerateSolution`
(subject = `GetSubject pubKey`, expiry `e`, no solution). -/
theorem solved_proof_accepted (sha b64 : Bytes → Bytes) (hsha : ∀ s, ∀ b ∈ sha s, b < 256)
    (hb64 : ∀ x, b64 x ≠ [] ∧ colon ∉ b64 x)
    (h h' : Hashcash) (w : WF h) (maxD : Nat) (now0 : Int) (fuel : Nat) (hsol : h.solution = [])
    (hs : solve sha b64 h maxD now0 fuel = .ok h')
    (e : Nat) (he : h.expiresAt = some e) (expiresNs : Nat) (hE : 2 * (expiresNs : Int) < 2^63 - 1) (now1 now2 : Int)
    (hw1 : expNs e - 2 * (expiresNs : Int) ≤ now1) (hw2 : now1 ≤ now2) (hw3 : now2 ≤ expNs e) :
    verifySolution sha 32 64 (toStr h') true h.difficulty expiresNs h.subject now1 now2 = .ok :=
  resolved_proof_accepted sha b64 hsha hb64 h h' w maxD now0 fuel hs e he expiresNs hE now1 now2 hw1 hw2 hw3

/-! ## Solve on a stamp that already carries a solution (re-solve after the parameters changed, foreign/garbage solution) -/

/-- **A stale solution is discarded before the search.**  When the stamp carries a solution that does not verify (now), `Solve`
behaves exactly as on the same stamp without a solution: the prefix that is hashed during the search is the canonical string
WITHOUT the old solution, so the old solution influences neither the counter found nor the stamp returned. -/
theorem solve_stale_eq_fresh (sha b64 : Bytes → Bytes) (h : Hashcash) (maxD : Nat) (now : Int) (fuel : Nat)
    (hstale : hcVerify sha h h.subject now ≠ .ok ()) :
    solve sha b64 h maxD now fuel = solve sha b64 { h with solution := [] } maxD now fuel := by
  have hv : ¬ (h.solution ≠ [] ∧ isOk (hcVerify sha h h.subject now) = true) :=
    fun x => hstale ((isOk_iff _).mp x.2)
  unfold solve
  simp only [hv, if_false, ne_eq, not_true_eq_false, false_and]

/-- **A still valid solution is kept** (the early return of `Solve`). -/
theorem solve_valid_kept (sha b64 : Bytes → Bytes) (h : Hashcash) (maxD : Nat) (now : Int) (fuel : Nat)
    (ha : h.alg = algSHA256) (hd : h.difficulty ≤ maxD ∧ h.difficulty ≤ maxDifficulty) (hne : h.solution ≠ [])
    (hvalid : hcVerify sha h h.subject now = .ok ()) :
    solve sha b64 h maxD now fuel = .ok h :=
  (solve_ok ..).mpr ⟨ha, hd.1, hd.2, by rw [if_pos ⟨hne, (isOk_iff _).mpr hvalid⟩]⟩

/-- **Whatever `Solve` returns verifies** — for EVERY starting stamp, with or without a (valid, stale, foreign) solution:
the returned stamp passes `Hashcash.Verify` with the stamp's own subject at every instant at which it has not expired. -/
theorem solve_verifies (sha b64 : Bytes → Bytes) (hsha : ∀ s, ∀ b ∈ sha s, b < 256) (hb64 : ∀ x, b64 x ≠ [])
    (h h' : Hashcash) (maxD : Nat) (now : Int) (fuel : Nat) (hs : solve sha b64 h maxD now fuel = .ok h')
    (now' : Int) (hx : expired h.expiresAt now' = false) :
    hcVerify sha h' h.subject now' = .ok () := by
  obtain ⟨e1, e2, e3, _, e5, _, _, e6⟩ := solve_sound sha b64 hsha hb64 h h' maxD now fuel hs
  exact (hcVerify_ok_iff sha hsha h' h.subject now').mpr ⟨e5, e2 ▸ hx, e3, e1 ▸ e6⟩


/-! ## non-vacuity

Test vectors, by `decide +kernel`: the kernel alone evaluates them (no extra axiom).  Plain `decide` evaluates twice, and not at all
where `toStr` is reached: it prints numbers with `dec`, whose well-founded recursion only the kernel unfolds. -/

def shaZ : Bytes → Bytes := fun _ => List.replicate 32 0     -- a "hash" with 256 leading zero bits
def shaF : Bytes → Bytes := fun _ => 0 :: 63 :: List.replicate 30 255   -- exactly 10 leading zero bits
def b64A : Bytes → Bytes := fun _ => [65]
def stamp : Bytes := [72,58,49,48,58,49,48,48,58,115,58,110,58,83,72,65,45,50,53,54,58,65]  -- "H:10:100:s:n:SHA-256:A"
def stamp0 : Hashcash := { difficulty := 10, expiresAt := some 100, subject := [115], nonce := [110], alg := algSHA256, solution := [] }

example : leadingZeroBits (shaF []) = 10 := by decide +kernel
example : verifyBits ((shaF []).take (nBytes 10)) 10 (nBytes 10) = some true := by decide +kernel
example : verifyBits ((shaF []).take (nBytes 11)) 11 (nBytes 11) = some false := by decide +kernel
example : verifySolution shaF 32 64 stamp true 10 10000000000 [115] 95000000000 95000000001 = .ok := by decide +kernel
example : verifySolution shaF 32 64 stamp true 10 10000000000 [115] 100000000001 100000000001 = .verify .expired := by decide +kernel
example : verifySolution shaF 32 64 stamp true 10 10000000000 [115] 79999999999 80000000000 = .tooFar := by decide +kernel
example : verifySolution shaF 32 64 stamp true 11 10000000000 [115] 95000000000 95000000001 = .wrongDifficulty := by decide +kernel
example : verifySolution shaF 32 64 stamp true 10 10000000000 [116] 95000000000 95000000001 = .verify .subject := by decide +kernel
example : (match parse stamp with | .ok h => decide (h = { stamp0 with solution := [65] }) | .error _ => false) = true := by decide +kernel
example : (match solve shaF b64A stamp0 26 0 1 with | .ok h => decide (h = { stamp0 with solution := [65] }) | .error _ => false) = true := by decide +kernel
example : WF stamp0 := ⟨by decide, by intro e h; cases h; decide, by decide, by decide, by decide, by decide⟩

/-- a "hash" that has 10 leading zero bits exactly on strings ending in 'A' and none otherwise -/
def shaD : Bytes → Bytes := fun s => if s.getLast? = some 65 then shaF [] else List.replicate 32 255
def stampStale : Hashcash := { stamp0 with solution := [66] }     -- "…:SHA-256:B": does not verify under shaD
def stampValid : Hashcash := { stamp0 with solution := [67, 65] } -- "…:SHA-256:CA": verifies under shaD

-- the stale solution is discarded (hypothesis of `solve_stale_eq_fresh` holds) and the re-solved stamp is the fresh one
example : isOk (hcVerify shaD stampStale stampStale.subject 0) = false := by decide +kernel
example : (match solve shaD b64A stampStale 26 0 1 with | .ok h => decide (h = { stamp0 with solution := [65] }) | .error _ => false) = true := by decide +kernel
example : (match solve shaD b64A stampStale 26 0 1, solve shaD b64A stamp0 26 0 1 with | .ok a, .ok b => decide (a = b) | _, _ => false) = true := by decide +kernel
-- the still valid one is kept (hypotheses of `solve_valid_kept`)
example : isOk (hcVerify shaD stampValid stampValid.subject 0) = true := by decide +kernel
example : (match solve shaD b64A stampValid 26 0 1 with | .ok h => decide (h = stampValid) | .error _ => false) = true := by decide +kernel
-- hypotheses of `solve_verifies` / `resolved_proof_accepted` on the stale stamp
example : WF stampStale := ⟨by decide, by intro e h; cases h; decide, by decide, by decide, by decide, by decide⟩
example : expired stampStale.expiresAt 95000000001 = false := by decide +kernel
example : verifySolution shaD 32 64 stamp true 10 10000000000 [115] 95000000000 95000000001 = .ok := by decide +kernel

-- subject: the stamp "H:10:100:*:n:SHA-256:A" (the subject `New` writes for an empty one) has the bits under shaF, is accepted
-- for the expected subject "*" and for no other; `stamp` (subject "s") is accepted for "s" only
def stampStar : Bytes := [72,58,49,48,58,49,48,48,58,42,58,110,58,83,72,65,45,50,53,54,58,65]
example : verifySolution shaF 32 64 stampStar true 10 10000000000 [42] 95000000000 95000000001 = .ok := by decide +kernel
example : verifySolution shaF 32 64 stampStar true 10 10000000000 [115] 95000000000 95000000001 = .verify .subject := by decide +kernel
example : verifySolution shaF 32 64 stamp true 10 10000000000 [42] 95000000000 95000000001 = .verify .subject := by decide +kernel
example : isOk (hcVerify shaF { stamp0 with subject := [42], solution := [65] } [42] 0) = true := by decide +kernel
example : isOk (hcVerify shaF { stamp0 with subject := [42], solution := [65] } [115] 0) = false := by decide +kernel

end Specter.C31
