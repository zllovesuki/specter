import SpecterModel.C30.Model
import SpecterModel.C29.Props
/-!
# C30 — Keyless TLS serves only the bound client, with valid inputs

Theorems over the model of `getCertificate` / `Sign` (reusing C29's `checkAcme` model) and over the TTL
chain of `computeKeylessTTL` with the constants GENERATED from tun/server/keyless_cache.go (Gen.lean,
regenerated and re-checked on every run). Tie: harness/cmd/c30 runs the real RPCs, the real
`computeKeylessTTL` and the real cache loader against these definitions.
-/
namespace Specter.C30
open Specter.C29 (Cfg State Client Code Chk checkAcme)

/-! ### who gets certificates and signatures -/

theorem getCertificate_cases (cfg : Cfg) (kv : State) (cache : Cache) (r : Req) :
    (∃ hn, r.norm = some hn ∧ kv.bound hn = some r.caller ∧ r.powOk = true)
      ∨ ((getCertificate cfg kv cache r).res ≠ none ∧ (getCertificate cfg kv cache r).called = false
          ∧ (getCertificate cfg kv cache r).cache = cache) := by
  cases hn : r.norm with
  | none => exact .inr (by simp [getCertificate, hn])
  | some h =>
    cases hc : checkAcme cfg kv r.caller h r.powOk r.kvGetFail with
    | found =>
      obtain ⟨⟨hp, -⟩, hb⟩ := C29.checkAcme_found_iff.mp hc
      exact .inl ⟨h, rfl, hb, hp⟩
    | notFound => exact .inr (by simp [getCertificate, hn, hc])
    | refused c n => exact .inr (by simp [getCertificate, hn, hc])

/-- **certificates only for the bound client**: a certificate chain is returned only when the
normalised hostname is bound to the caller and the proof of work is valid. -/
theorem cert_only_for_bound (cfg : Cfg) (kv : State) (cache : Cache) (r : Req)
    (h : (getCertificate cfg kv cache r).res = none) :
    ∃ hn, r.norm = some hn ∧ kv.bound hn = some r.caller ∧ r.powOk = true :=
  (getCertificate_cases cfg kv cache r).resolve_right fun h' => h'.1 h

/-- the certificate provider (and the cache) is never even consulted for anybody else -/
theorem provider_only_for_bound (cfg : Cfg) (kv : State) (cache : Cache) (r : Req)
    (h : (getCertificate cfg kv cache r).called = true) :
    ∃ hn, r.norm = some hn ∧ kv.bound hn = some r.caller ∧ r.powOk = true :=
  (getCertificate_cases cfg kv cache r).resolve_right fun h' => by rw [h'.2.1] at h; cases h

/-- other client / unbound hostname / no proof: refused, cache untouched, provider not called -/
theorem not_entitled_refused (cfg : Cfg) (kv : State) (cache : Cache) (r : Req)
    (h : r.powOk = false ∨ r.norm = none ∨ ∃ hn, r.norm = some hn ∧ kv.bound hn ≠ some r.caller) :
    (getCertificate cfg kv cache r).res ≠ none ∧ (getCertificate cfg kv cache r).called = false
      ∧ (getCertificate cfg kv cache r).cache = cache := by
  refine (getCertificate_cases cfg kv cache r).resolve_left ?_
  rintro ⟨hn, e, hb, hp⟩
  rcases h with h | h | ⟨x, hx, hnb⟩
  · rw [h] at hp; cases hp
  · rw [h] at e; cases e
  · cases e.symm.trans hx; exact hnb hb

theorem sign_res (cfg : Cfg) (kv : State) (cache : Cache) (r : Req) (algo dlen : Nat) (isSigner signOk : Bool) :
    (sign cfg kv cache r algo dlen isSigner signOk).res =
      match (getCertificate cfg kv cache r).res with
      | some e => some e
      | none =>
        match hashSize algo with
        | none => some .invAlgo
        | some n =>
          if !isSigner then some .internal else if dlen ≠ n then some .invDigest
          else if !signOk then some .internal else none := by
  unfold sign
  cases he : (getCertificate cfg kv cache r).res with
  | some e => simp only [he]
  | none =>
    simp only [he]
    cases hashSize algo with
    | none => rfl
    | some n => simp only [apply_ite GetOut.res, he]

theorem sign_ok_iff {cfg : Cfg} {kv : State} {cache : Cache} {r : Req} {algo dlen : Nat} {isSigner signOk : Bool} :
    (sign cfg kv cache r algo dlen isSigner signOk).res = none
      ↔ (getCertificate cfg kv cache r).res = none ∧ hashSize algo = some dlen ∧ isSigner = true ∧ signOk = true := by
  rw [sign_res]
  grind

/-- **sign guards**: a signature is returned only to the bound client with a valid proof, for a
supported hash (SHA-256/384/512) and a digest of exactly that hash's length, by a real signer. -/
theorem sign_guards (cfg : Cfg) (kv : State) (cache : Cache) (r : Req) (algo dlen : Nat) (isSigner signOk : Bool)
    (h : (sign cfg kv cache r algo dlen isSigner signOk).res = none) :
    (∃ hn, r.norm = some hn ∧ kv.bound hn = some r.caller ∧ r.powOk = true)
      ∧ ((algo = 1 ∧ dlen = 32) ∨ (algo = 2 ∧ dlen = 48) ∨ (algo = 3 ∧ dlen = 64))
      ∧ isSigner = true ∧ signOk = true := by
  obtain ⟨hg, hs, h1, h2⟩ := sign_ok_iff.mp h
  refine ⟨cert_only_for_bound cfg kv cache r hg, ?_, h1, h2⟩
  revert hs
  fun_cases hashSize algo <;> rintro ⟨⟩ <;> simp

/-- the guards are evaluated before the signer is touched: when algorithm or digest length is wrong the
answer does not depend on what the signer would do -/
theorem sign_guards_before_signer (cfg : Cfg) (kv : State) (cache : Cache) (r : Req) (algo dlen : Nat)
    (isSigner : Bool) (hbad : hashSize algo ≠ some dlen) :
    sign cfg kv cache r algo dlen isSigner true = sign cfg kv cache r algo dlen isSigner false := by
  unfold sign
  simp only
  cases (getCertificate cfg kv cache r).res with
  | some e => rfl
  | none =>
    cases hs : hashSize algo with
    | none => rfl
    | some n =>
      have : dlen ≠ n := fun e => hbad (by rw [hs, e])
      simp [this]

theorem sign_bad_input_refused (cfg : Cfg) (kv : State) (cache : Cache) (r : Req) (algo dlen : Nat)
    (isSigner signOk : Bool) (hbad : hashSize algo ≠ some dlen) :
    (sign cfg kv cache r algo dlen isSigner signOk).res ≠ none :=
  fun h => hbad (sign_ok_iff.mp h).2.1

/-! ### cache TTL (over the generated constants) -/

theorem skew_pos : 0 < Gen.C30.keylessExpirySkew := by decide
theorem second_pos : 0 < second := by decide
theorem pos_gt_second : second < Gen.C30.keylessPositiveTTL := by decide
theorem failed_pos : 0 < Gen.C30.keylessFailedTTL := by decide

/-- closed form: remaining validity after the skew, clamped to [.., 5 min], floor 1 s when nothing remains.
What is proved about `ttlOf` uses the generated constants only through `second_pos` and `pos_gt_second`. -/
theorem ttlOf_eq (d : Int) :
    ttlOf d = if d - Gen.C30.keylessExpirySkew ≤ 0 then second
              else min (d - Gen.C30.keylessExpirySkew) Gen.C30.keylessPositiveTTL := by
  simp only [ttlOf, ← Int.sub_eq_add_neg]
  split
  · rfl
  · split
    · next h => exact (Int.min_eq_left (Int.le_of_lt h)).symm
    · next h => exact (Int.min_eq_right (Int.not_lt.mp h)).symm

theorem ttl_pos (leaf : Option Int) : 0 < computeTTL leaf := by
  have hp : 0 < Gen.C30.keylessPositiveTTL := Int.lt_trans second_pos pos_gt_second
  cases leaf with
  | none => exact hp
  | some d =>
    simp only [computeTTL, ttlOf_eq]
    split
    · exact second_pos
    · exact Int.lt_min.mpr ⟨Int.not_le.mp ‹_›, hp⟩

theorem ttl_le_positive (leaf : Option Int) : computeTTL leaf ≤ Gen.C30.keylessPositiveTTL := by
  cases leaf with
  | none => exact Int.le_refl _
  | some d =>
    simp only [computeTTL, ttlOf_eq]
    split
    · exact Int.le_of_lt pos_gt_second
    · exact Int.min_le_right ..

/-- **never cached past expiry − skew**: with `d = NotAfter − now`, the entry expires no later than
`NotAfter − skew`; the only exception is the 1 s floor used when that moment is already reached (a TTL ≤ 0
would mean "no expiry" to the cache). -/
theorem never_cached_past_expiry (d : Int) :
    ttlOf d ≤ d - Gen.C30.keylessExpirySkew ∨ (ttlOf d = second ∧ d - Gen.C30.keylessExpirySkew ≤ 0) := by
  rw [ttlOf_eq]
  split
  · exact .inr ⟨rfl, ‹_›⟩
  · exact .inl (Int.min_le_left ..)

theorem ttl_bound (d : Int) : ttlOf d ≤ max (d - Gen.C30.keylessExpirySkew) second := by
  rcases never_cached_past_expiry d with h | ⟨h, -⟩
  · exact Int.le_trans h (Int.le_max_left ..)
  · exact h ▸ Int.le_max_right ..

/-- the TTL is NOT monotone in the remaining validity (1 s floor vs. a few ns left); the exact set of
TTLs the loader can produce when it reads the clock somewhere in a bracket is decided by `ttlReachable` -/
theorem ttlReachable_iff (d1 d0 t : Int) (h : d1 ≤ d0) :
    ttlReachable d1 d0 t = true ↔ ∃ d, d1 ≤ d ∧ d ≤ d0 ∧ ttlOf d = t := by
  have hp : 0 < Gen.C30.keylessPositiveTTL := Int.lt_trans second_pos pos_gt_second
  simp only [ttlReachable, Bool.or_eq_true, Bool.and_eq_true, decide_eq_true_eq, beq_iff_eq]
  constructor
  · -- one witness per regime: the lower end, `t + skew`, the upper end
    rintro ((⟨rfl, h1⟩ | ⟨⟨⟨h1, h2⟩, h3⟩, h4⟩) | ⟨rfl, h1⟩)
    · exact ⟨d1, Int.le_refl _, h, by rw [ttlOf_eq, if_pos h1]⟩
    · exact ⟨t + Gen.C30.keylessExpirySkew, h3, h4, by
        rw [ttlOf_eq, Int.add_sub_cancel, if_neg (Int.not_le.mpr h1), Int.min_eq_left (Int.le_of_lt h2)]⟩
    · exact ⟨d0, h, Int.le_refl _, by
        rw [ttlOf_eq, if_neg (Int.not_le.mpr (Int.lt_of_lt_of_le hp h1)), Int.min_eq_right h1]⟩
  · rintro ⟨d, h1, h2, rfl⟩
    rw [ttlOf_eq]
    split
    · exact .inl (.inl ⟨rfl, Int.le_trans (Int.sub_le_sub_right h1 _) ‹_›⟩)
    · by_cases h' : d - Gen.C30.keylessExpirySkew < Gen.C30.keylessPositiveTTL
      · rw [Int.min_eq_left (Int.le_of_lt h'), Int.sub_add_cancel]
        exact .inl (.inr ⟨⟨⟨Int.not_le.mp ‹_›, h'⟩, h1⟩, h2⟩)
      · rw [Int.min_eq_right (Int.not_lt.mp h')]
        exact .inr ⟨rfl, Int.le_trans (Int.not_lt.mp h') (Int.sub_le_sub_right h2 _)⟩

/-- above the 1 s floor (something remains after the skew) it is monotone all the same -/
theorem ttl_mono_of_pos (d₁ d₂ : Int) (h : d₁ ≤ d₂) (hp : 0 < d₁ - Gen.C30.keylessExpirySkew) :
    ttlOf d₁ ≤ ttlOf d₂ := by
  have hp₂ : 0 < d₂ - Gen.C30.keylessExpirySkew := Int.lt_of_lt_of_le hp (Int.sub_le_sub_right h _)
  rw [ttlOf_eq, ttlOf_eq, if_neg (Int.not_le.mpr hp), if_neg (Int.not_le.mpr hp₂)]
  exact Int.le_min.mpr ⟨Int.le_trans (Int.min_le_left ..) (Int.sub_le_sub_right h _), Int.min_le_right ..⟩

/-- the loader's `if ret.TTL <= 0` fallback is dead: it always stores the computed TTL for a certificate,
hence the bound above applies to what the cache is told -/
theorem loader_ttl (leaf : Option Int) :
    loaderTTL .cert leaf = computeTTL leaf ∧ loaderTTL .fail leaf = Gen.C30.keylessFailedTTL
      ∧ loaderTTL .empty leaf = Gen.C30.keylessFailedTTL ∧ Gen.C30.keylessFailedTTL < Gen.C30.keylessPositiveTTL := by
  have := ttl_pos leaf
  refine ⟨?_, rfl, rfl, by decide⟩
  simp only [loaderTTL]
  split
  · omega
  · rfl

/-! ### the loader on a timeline: slow certificate providers -/

theorem loaderRunTTL_cert (notAfter : Int) (r : Run) :
    loaderRunTTL .cert (some notAfter) r = ttlOf (notAfter - r.now) :=
  (loader_ttl (some (notAfter - r.now))).1

/-- `ttlAllowed` (the statement's predicate, also the driver's SPEC oracle) holds for `computeKeylessTTL`
at the instant its `now` was read -/
theorem ttl_allowed (d : Int) : ttlAllowed d (ttlOf d) = true := by
  simp only [ttlAllowed, Bool.and_eq_true, decide_eq_true_eq]
  exact ⟨ttl_pos (some d), ttl_bound d⟩

/-- allowed at a later instant ⇒ allowed at every earlier one (less validity has elapsed) -/
theorem ttlAllowed_mono {d d' t : Int} (h : d ≤ d') (ha : ttlAllowed d t = true) : ttlAllowed d' t = true := by
  simp only [ttlAllowed, Bool.and_eq_true, decide_eq_true_eq] at ha ⊢
  exact ⟨ha.1, Int.le_trans ha.2 (Int.max_le.mpr
    ⟨Int.le_trans (Int.sub_le_sub_right h _) (Int.le_max_left ..), Int.le_max_right ..⟩)⟩

/-- **a slow provider never stretches the entry**: the clock is read again after the provider answered, so
whatever the latency `ret − start`, the TTL counted from that reading `now` ends by `NotAfter − skew` — or is
the 1 s floor for a certificate already inside the skew when it arrives. (The cache starts the lifetime once
the loader has returned, a moment after `now`.) -/
theorem loader_run_never_past_expiry (notAfter : Int) (r : Run) :
    let t := loaderRunTTL .cert (some notAfter) r
    0 < t ∧ (r.now + t ≤ notAfter - Gen.C30.keylessExpirySkew
              ∨ (t = second ∧ notAfter - Gen.C30.keylessExpirySkew ≤ r.now)) := by
  simp only [loaderRunTTL_cert]
  refine ⟨ttl_pos (some _), ?_⟩
  rcases never_cached_past_expiry (notAfter - r.now) with h | ⟨h, h'⟩
  · exact .inl (by omega)
  · exact .inr ⟨h, by omega⟩

/-- the same, in the form the driver judges on every loader line: the TTL is allowed at the instant the
provider returned (`ret ≤ now`), hence also at any earlier reading such as the loader's entry -/
theorem loader_run_allowed (notAfter : Int) (r : Run) (h : r.ret ≤ r.now) :
    ttlAllowed (notAfter - r.ret) (loaderRunTTL .cert (some notAfter) r) = true := by
  rw [loaderRunTTL_cert]
  exact ttlAllowed_mono (Int.sub_le_sub_left h _) (ttl_allowed _)

/-- the TTL of a run does not depend on when the loader was entered (`start` only feeds the log line) -/
theorem loader_run_start_irrelevant (p : Provider) (na : Option Int) (s₁ s₂ ret now : Int) :
    loaderRunTTL p na ⟨s₁, ret, now⟩ = loaderRunTTL p na ⟨s₂, ret, now⟩ := rfl

/-- correspondence lemma for the driver: when the harness read the clock at `ret` (inside the provider,
right before it returned) and at `after ≥ now`, the run's TTL is one `ttlReachable` accepts for the bracket
`[NotAfter − after, NotAfter − ret]` -/
theorem loader_run_reachable (notAfter after : Int) (r : Run) (h : r.ret ≤ r.now) (h' : r.now ≤ after) :
    ttlReachable (notAfter - after) (notAfter - r.ret) (loaderRunTTL .cert (some notAfter) r) = true := by
  rw [loaderRunTTL_cert, ttlReachable_iff _ _ _ (Int.sub_le_sub_left (Int.le_trans h h') _)]
  exact ⟨notAfter - r.now, Int.sub_le_sub_left h' _, Int.sub_le_sub_left h _, rfl⟩

/-- `ret ≤ now` is what the property rests on: computing the TTL from a clock reading taken BEFORE a provider
that took `lat > 0` (e.g. re-using `start`) is rejected by `ttlAllowed` whenever more than the 1 s floor but
less than `5 min + lat` of validity-after-skew was left at that stale reading. -/
theorem stale_clock_overstays (notAfter stale ret : Int) (hlat : stale < ret)
    (h1 : second < notAfter - stale - Gen.C30.keylessExpirySkew)
    (h2 : notAfter - ret - Gen.C30.keylessExpirySkew < Gen.C30.keylessPositiveTTL) :
    ttlAllowed (notAfter - ret) (ttlOf (notAfter - stale)) = false := by
  have hT : ttlOf (notAfter - stale)
      = min (notAfter - stale - Gen.C30.keylessExpirySkew) Gen.C30.keylessPositiveTTL := by
    rw [ttlOf_eq, if_neg (Int.not_le.mpr (Int.lt_trans second_pos h1))]
  simp only [ttlAllowed, Bool.and_eq_false_iff, decide_eq_false_iff_not, hT]
  -- the stale TTL exceeds both what is left at `ret` and the 1 s floor
  exact .inr (Int.not_le.mpr (Int.max_lt.mpr
    ⟨Int.lt_min.mpr ⟨Int.sub_lt_sub_right (Int.sub_lt_sub_left hlat _) _, h2⟩,
      Int.lt_min.mpr ⟨h1, pos_gt_second⟩⟩))

/-! ### non-vacuity -/

def cfgEx : Cfg := ⟨"hello.com", "acme.example.com"⟩
def alice : Client := ⟨1, "A"⟩
def bob : Client := ⟨2, "B"⟩
def kvEx : State := ⟨fun x => if x = "app.customer.org" then some alice else none, fun _ _ => false⟩
def reqEx (c : Client) : Req := ⟨c, some "app.customer.org", true, false, .cert⟩

/-- the one evaluation the owner's examples share -/
private theorem getCertificate_ex : (getCertificate cfgEx kvEx (fun _ => none) (reqEx alice)).res = none
    ∧ (getCertificate cfgEx kvEx (fun _ => none) (reqEx alice)).called = true := by decide +kernel

example : (getCertificate cfgEx kvEx (fun _ => none) (reqEx alice)).res = none
    ∧ (getCertificate cfgEx kvEx (fun _ => none) (reqEx alice)).called = true := getCertificate_ex
example : (getCertificate cfgEx kvEx (fun _ => none) (reqEx bob)).res = some .invHost := by decide +kernel
example : (getCertificate cfgEx kvEx (fun _ => none) ⟨alice, some "www.customer.org", true, false, .cert⟩).res = some .denied := by decide +kernel
example : (sign cfgEx kvEx (fun _ => none) (reqEx alice) 2 48 true true).res = none :=
  sign_ok_iff.mpr ⟨getCertificate_ex.1, rfl, rfl, rfl⟩
example : (sign cfgEx kvEx (fun _ => none) (reqEx alice) 2 32 true true).res = some .invDigest := by
  rw [sign_res, getCertificate_ex.1]; rfl
example : (sign cfgEx kvEx (fun _ => none) (reqEx alice) 0 32 true true).res = some .invAlgo := by
  rw [sign_res, getCertificate_ex.1]; rfl
example : ttlOf (Gen.C30.keylessExpirySkew + 7) = 7 ∧ ttlOf Gen.C30.keylessExpirySkew = second
    ∧ ttlOf (Gen.C30.keylessExpirySkew + 2 * Gen.C30.keylessPositiveTTL) = Gen.C30.keylessPositiveTTL := by decide +kernel

/-- a run with a 3 s provider on a certificate with 2 s (after skew) left at entry: 1 s floor, allowed;
with 10 s left and a 1.5 s provider: 8.5 s − ε; the stale-clock TTLs (2 s, 10 s) are both rejected -/
def runEx (lat : Int) : Run := ⟨0, lat, lat + 1000⟩
example : (runEx 3000000000).ordered ∧ loaderRunTTL .cert (some (Gen.C30.keylessExpirySkew + 2 * second)) (runEx 3000000000) = second
    ∧ loaderRunTTL .cert (some (Gen.C30.keylessExpirySkew + 10 * second)) (runEx 1500000000) = 8499999000
    ∧ ttlAllowed (Gen.C30.keylessExpirySkew + 10 * second - 1500000000) 8499999000 = true
    ∧ ttlAllowed (Gen.C30.keylessExpirySkew + 10 * second - 1500000000) (ttlOf (Gen.C30.keylessExpirySkew + 10 * second - 0)) = false
    ∧ ttlAllowed (Gen.C30.keylessExpirySkew + 2 * second - 3000000000) (ttlOf (Gen.C30.keylessExpirySkew + 2 * second - 0)) = false := by
  decide +kernel
example : ∃ na stale ret : Int, stale < ret ∧ second < na - stale - Gen.C30.keylessExpirySkew
    ∧ na - ret - Gen.C30.keylessExpirySkew < Gen.C30.keylessPositiveTTL :=
  ⟨Gen.C30.keylessExpirySkew + 2 * second, 0, 3 * second, by decide +kernel⟩

end Specter.C30
