import SpecterModel.C40.Model
/-!
# C40 — bidirectional piping delivers all data and closes both ends

Part 1: one copier (`io.CopyBuffer` loop as coded) over ARBITRARY reader / writer scripts.
Part 2: `Pipe` = two copiers + wait group + buffered error channel, ALL interleavings, arbitrary copy outcomes.
Part 3: both directions at once, each through its own copy buffer, writes consumed piece by piece, ALL interleavings.
-/
namespace Specter.C40

/-! ## Part 1: the copier -/

def nonEmpty (d : List Nat) : Bool := !d.isEmpty

/-- the one `Write` result that `judge` lets the loop go on with: `nw = nr`, no error -/
theorem judge_ok (nr : Nat) (w : WriteRes) (h2 : (judge nr w).2 = none) (h1 : (nr : Int) = (judge nr w).1) :
    w.n = nr ∧ w.err = none := by
  revert h2 h1
  fun_cases judge nr w
  case case1 =>   -- judged invalid: the error is not nil
    intro h2
    split at h2
    · cases h2
    · exact absurd h2 ‹_›
  case case2 => exact fun h2 h1 => ⟨h1.symm, h2⟩

/-- `new`: the chunks this run takes, a prefix of what the source still holds (`[[]]`: the `(0, EOF)` of a script that
ran out). -/
theorem copyLoop_spec (rs : List ReadRes) : ∀ (ws : List WriteRes) (calls taken : List (List Nat)) (wr : Int),
    ∃ new, new <+: rs.map ReadRes.data ++ [[]] ∧
      (copyLoop rs ws calls taken wr).taken = taken.reverse ++ new ∧
      (copyLoop rs ws calls taken wr).calls = calls.reverse ++ new.filter nonEmpty ∧
      ((copyLoop rs ws calls taken wr).err = none →
        (copyLoop rs ws calls taken wr).written = wr + (new.flatten.length : Int)) := by
  induction rs with
  | nil => intro ws calls taken wr; exact ⟨[[]], by simp [copyLoop, nonEmpty]⟩
  | cons r rs ih =>
    intro ws calls taken wr
    have one : [r.data] <+: (r :: rs).map ReadRes.data ++ [[]] := List.cons_prefix_cons.mpr ⟨rfl, List.nil_prefix⟩
    -- one more pass of the loop: the chunks `new` it takes come after `r.data`
    have more : ∀ {o : CopyOut} {new}, new <+: rs.map ReadRes.data ++ [[]] →
        o.taken = (r.data :: taken).reverse ++ new →
        r.data :: new <+: (r :: rs).map ReadRes.data ++ [[]] ∧ o.taken = taken.reverse ++ (r.data :: new) :=
      fun hp ht => ⟨List.cons_prefix_cons.mpr ⟨rfl, hp⟩, by rw [ht, List.reverse_cons, List.append_assoc]; rfl⟩
    rw [copyLoop]
    dsimp only
    by_cases c : r.data ≠ []
    · have fc : ∀ new, (r.data :: new).filter nonEmpty = r.data :: new.filter nonEmpty :=
        fun _ => List.filter_cons_of_pos (by simpa [nonEmpty] using c)
      have ck : (r.data :: calls).reverse = calls.reverse ++ [r.data].filter nonEmpty := by
        rw [fc]; exact List.reverse_cons
      rw [if_pos c]
      generalize judge r.data.length (nextWrite ws r.data.length).1 = j
      by_cases c2 : j.2 ≠ none
      · rw [if_pos c2]; exact ⟨_, one, List.reverse_cons, ck, fun h => absurd h c2⟩
      · rw [if_neg c2]
        by_cases c3 : (r.data.length : Int) ≠ j.1
        · rw [if_pos c3]; exact ⟨_, one, List.reverse_cons, ck, nofun⟩
        · rw [if_neg c3, ← Decidable.not_not.mp c3]
          -- `er`: nil (next pass), EOF, any other error
          split
          · obtain ⟨new, hp, ht, hc, hw⟩ := ih (nextWrite ws r.data.length).2 (r.data :: calls) (r.data :: taken)
              (wr + r.data.length)
            refine ⟨r.data :: new, (more hp ht).1, (more hp ht).2, ?_, fun h => ?_⟩
            · rw [hc, fc, List.reverse_cons, List.append_assoc]; rfl
            · rw [hw h, List.flatten_cons, List.length_append]; omega
          · exact ⟨_, one, List.reverse_cons, ck, fun _ => by simp⟩
          · exact ⟨_, one, List.reverse_cons, ck, nofun⟩
    · have c' : r.data = [] := Decidable.not_not.mp c
      have fc : ∀ new, (r.data :: new).filter nonEmpty = new.filter nonEmpty :=
        fun _ => List.filter_cons_of_neg (by simp [nonEmpty, c'])
      have ck : calls.reverse = calls.reverse ++ [r.data].filter nonEmpty := by rw [fc]; exact (List.append_nil _).symm
      rw [if_neg c]
      split
      · obtain ⟨new, hp, ht, hc, hw⟩ := ih ws calls (r.data :: taken) wr
        refine ⟨r.data :: new, (more hp ht).1, (more hp ht).2, by rw [hc, fc], fun h => ?_⟩
        rw [hw h, c']; rfl
      · exact ⟨_, one, List.reverse_cons, ck, fun _ => by simp [c']⟩
      · exact ⟨_, one, List.reverse_cons, ck, nofun⟩

/-- Whatever the reader and writer do: the copier hands to `Write` exactly the non-empty
chunks it read, in order, all of them up to and including its terminating read — so the byte string offered
to the destination equals the byte string taken from the source. -/
theorem copier_faithful (rs : List ReadRes) (ws : List WriteRes) :
    (copy rs ws).calls = (copy rs ws).taken.filter nonEmpty ∧
    (copy rs ws).calls.flatten = (copy rs ws).taken.flatten := by
  obtain ⟨new, _, ht, hc, _⟩ := copyLoop_spec rs ws [] [] 0
  have h : (copy rs ws).calls = (copy rs ws).taken.filter nonEmpty := by rw [copy, ht, hc]; rfl
  exact ⟨h, h ▸ List.flatten_filter_not_isEmpty⟩

/-- The copier consumes the source from its beginning, in order, without skipping. -/
theorem copier_reads_in_order (rs : List ReadRes) (ws : List WriteRes) :
    (copy rs ws).taken <+: rs.map ReadRes.data ++ [[]] := by
  obtain ⟨new, hp, ht, _⟩ := copyLoop_spec rs ws [] [] 0
  rw [copy, ht]; exact hp

/-- When the copier ends without error, the destination accepted exactly as many bytes as
were offered, i.e. every byte read from the source up to its end-of-stream was delivered. -/
theorem copier_complete (rs : List ReadRes) (ws : List WriteRes) (h : (copy rs ws).err = none) :
    (copy rs ws).written = ((copy rs ws).taken.flatten.length : Int) := by
  obtain ⟨new, _, ht, _, hw⟩ := copyLoop_spec rs ws [] [] 0
  rw [copy, ht, hw h]; simp

/-! ## Part 2: `Pipe` -/

/-- 1 once the goroutine has closed the stream it writes to -/
def cw : PC → Nat
  | .copying | .closing1 _ => 0
  | _ => 1
/-- 1 once the goroutine has closed the stream it reads from -/
def cr : PC → Nat
  | .copying | .closing1 _ | .closing2 _ => 0
  | _ => 1
def live : PC → Nat
  | .exited _ => 0
  | _ => 1
/-- what the goroutine has put on the channel -/
def sent : PC → List Err
  | .exiting (some e) | .exited (some e) => [e]
  | _ => []

/-- Every counter of the state is the sum of what the two program counters say has happened. -/
structure PInv (s : PState) : Prop where
  /-- `Close` calls on X: A reads it, B writes it -/
  cx : s.closesX = cr s.pcA + cw s.pcB
  /-- `Close` calls on Y: A writes it, B reads it -/
  cy : s.closesY = cw s.pcA + cr s.pcB
  /-- the wait group counts the copiers that have not run `wg.Done()` -/
  wg : s.wg = live s.pcA + live s.pcB
  /-- the channel holds what the two have sent, in either order -/
  ch : s.chan = sent s.pcA ++ sent s.pcB ∨ s.chan = sent s.pcB ++ sent s.pcA
  /-- no send found the channel full -/
  nb : s.blocked = false
  /-- no send on the closed channel -/
  np : s.panicked = false
  /-- the closer closes only after `wg.Wait()` -/
  cl : s.chanClosed = true → s.wg = 0

theorem sent_exiting (e : Option Err) : sent (.exiting e) = e.toList := by cases e <;> rfl
theorem sent_exited (e : Option Err) : sent (.exited e) = e.toList := by cases e <;> rfl

theorem sent_len (p : PC) : (sent p).length ≤ 1 := by
  cases p with
  | exiting e | exited e => cases e <;> exact Nat.le_of_ble_eq_true rfl
  | _ => exact Nat.le_of_ble_eq_true rfl

/-- A live copier's send appends: the channel is open (`wg > 0`) and holds at most what the other copier sent. -/
theorem PInv.send_eq {s : PState} (h : PInv s) (e : Option Err) (q : PC) (hw : 0 < s.wg) (hch : s.chan = sent q) :
    send s e = { s with chan := s.chan ++ e.toList } := by
  have hc : s.chanClosed = false := by
    cases hc : s.chanClosed
    · rfl
    · have := h.cl hc; omega
  have hl : ¬ s.chan.length ≥ 2 := by have := sent_len q; rw [hch]; omega
  fun_cases send s e
  case case1 => simp
  case case2 c => rw [hc] at c; cases c
  case case3 c => exact absurd c hl
  case case4 => rfl

theorem pinv_step (s : PState) (e : PEv) (h : PInv s) : PInv (pstep s e) := by
  have ⟨cx, cy, wg, ch, nb, np, cl⟩ := h
  fun_cases pstep s e
  -- not enabled at this pc
  case case2 | case4 | case9 | case14 | case16 => exact h
  -- `finishA`, `finishB` while copying
  case case1 hA => rw [hA] at cx cy wg ch; exact ⟨cx, cy, wg, ch, nb, np, cl⟩
  case case3 hB => rw [hB] at cx cy wg ch; exact ⟨cx, cy, wg, ch, nb, np, cl⟩
  -- `stepA` at `closing1`, `closing2`, `reporting`, `exiting`
  case case5 e hA => rw [hA] at cx cy wg ch; exact ⟨cx, by simp only [cw] at cy ⊢; omega, wg, ch, nb, np, cl⟩
  case case6 e hA => rw [hA] at cx cy wg ch; exact ⟨by simp only [cr] at cx ⊢; omega, cy, wg, ch, nb, np, cl⟩
  case case7 e hA s' =>
    rw [hA] at cx cy wg ch
    dsimp only [s']
    -- this copier has sent nothing yet: the channel holds what the other one sent
    have hch : s.chan = sent s.pcB := ch.elim id (·.trans (List.append_nil _))
    rw [h.send_eq e s.pcB (by simp only [live] at wg; omega) hch]
    exact ⟨cx, cy, wg, Or.inr (by rw [hch, sent_exiting]), nb, np, cl⟩
  case case8 e hA =>
    rw [hA, sent_exiting, ← sent_exited] at ch
    rw [hA] at cx cy wg
    exact ⟨cx, cy, by simp only [live] at wg ⊢; omega, ch, nb, np, fun hc => by simp only [cl hc]⟩
  -- `stepB`, the same
  case case10 e hB => rw [hB] at cx cy wg ch; exact ⟨by simp only [cw] at cx ⊢; omega, cy, wg, ch, nb, np, cl⟩
  case case11 e hB => rw [hB] at cx cy wg ch; exact ⟨cx, by simp only [cr] at cy ⊢; omega, wg, ch, nb, np, cl⟩
  case case12 e hB s' =>
    rw [hB] at cx cy wg ch
    dsimp only [s']
    have hch : s.chan = sent s.pcA := ch.elim (·.trans (List.append_nil _)) id
    rw [h.send_eq e s.pcA (by simp only [live] at wg; omega) hch]
    exact ⟨cx, cy, wg, Or.inl (by rw [hch, sent_exiting]), nb, np, cl⟩
  case case13 e hB =>
    rw [hB, sent_exiting, ← sent_exited] at ch
    rw [hB] at cx cy wg
    exact ⟨cx, cy, by simp only [live] at wg ⊢; omega, ch, nb, np, fun hc => by simp only [cl hc]⟩
  -- `closer`, enabled
  case case15 c => exact ⟨cx, cy, wg, ch, nb, np, fun _ => c.1⟩

/-- The invariant holds after every interleaving. -/
theorem pinv_run (evs : List PEv) : PInv (prun evs) :=
  List.foldlRecOn evs pstep ⟨rfl, rfl, rfl, .inl rfl, rfl, rfl, nofun⟩ fun s h e _ => pinv_step s e h

/-- In every interleaving no copier ever finds the error channel full (buffer 2,
at most one send per copier) and nobody sends on the closed channel (no panic). -/
theorem errchan_never_blocks (evs : List PEv) :
    (prun evs).blocked = false ∧ (prun evs).panicked = false ∧ (prun evs).chan.length ≤ 2 := by
  have h := pinv_run evs
  have la := sent_len (prun evs).pcA; have lb := sent_len (prun evs).pcB
  refine ⟨h.nb, h.np, ?_⟩
  rcases h.ch with c | c <;> rw [c, List.length_append] <;> omega

theorem live_zero (p : PC) (h : live p = 0) : ∃ e, p = .exited e := by
  cases p <;> simp [live] at h ⊢

/-- Whenever the returned channel is closed:
both copiers have exited; each of the two streams received exactly two `Close()` calls (one per copier);
and the channel holds exactly the non-nil results of the two `io.CopyBuffer` calls (in either order),
nothing else. -/
theorem completion_reported (evs : List PEv) (hc : (prun evs).chanClosed = true) :
    ∃ ea eb, (prun evs).pcA = .exited ea ∧ (prun evs).pcB = .exited eb ∧
      (prun evs).closesX = 2 ∧ (prun evs).closesY = 2 ∧
      ((prun evs).chan = ea.toList ++ eb.toList ∨ (prun evs).chan = eb.toList ++ ea.toList) := by
  have h := pinv_run evs
  have hw := Nat.add_eq_zero_iff.mp (h.wg ▸ h.cl hc)
  obtain ⟨ea, ha⟩ := live_zero (prun evs).pcA hw.1
  obtain ⟨eb, hb⟩ := live_zero (prun evs).pcB hw.2
  refine ⟨ea, eb, ha, hb, by rw [h.cx, ha, hb]; rfl, by rw [h.cy, ha, hb]; rfl, ?_⟩
  have hch := h.ch
  rwa [ha, hb, sent_exited, sent_exited] at hch

/-- Conversely, once both copiers have exited the closer goroutine is enabled and closes the channel. -/
theorem completion_enabled (evs : List PEv) (ea eb : Option Err)
    (ha : (prun evs).pcA = .exited ea) (hb : (prun evs).pcB = .exited eb) :
    (pstep (prun evs) .closer).chanClosed = true := by
  have h := pinv_run evs
  have hw : (prun evs).wg = 0 := by rw [h.wg, ha, hb]; rfl
  unfold pstep
  cases hc : (prun evs).chanClosed <;> simp [hw, hc]

/-- Once a copier is about to report (`cr = 1`) both streams have been closed at least once. -/
theorem both_closed_on_exit (evs : List PEv) :
    (cr (prun evs).pcA = 1 → 1 ≤ (prun evs).closesX ∧ 1 ≤ (prun evs).closesY) ∧
    (cr (prun evs).pcB = 1 → 1 ≤ (prun evs).closesX ∧ 1 ≤ (prun evs).closesY) := by
  have h := pinv_run evs
  -- a copier closes the stream it writes to first
  have e1 : ∀ p, cr p ≤ cw p := by intro p; cases p <;> exact Nat.le_of_ble_eq_true rfl
  rw [h.cx, h.cy]
  exact ⟨fun ha => ⟨ha ▸ Nat.le_add_right _ _, Nat.le_add_right_of_le (ha ▸ e1 _)⟩,
    fun hb => ⟨Nat.le_trans (hb ▸ e1 _) (Nat.le_add_left _ _), hb ▸ Nat.le_add_left _ _⟩⟩

/-- the result a goroutine carries after `io.CopyBuffer` returned -/
def carried : PC → Option (Option Err)
  | .copying => none
  | .closing1 e | .closing2 e | .reporting e | .exiting e | .exited e => some e

theorem send_pcs (s : PState) (e : Option Err) : (send s e).pcA = s.pcA ∧ (send s e).pcB = s.pcB := by
  fun_cases send s e
  all_goals exact ⟨rfl, rfl⟩

theorem carried_step (s : PState) (ev : PEv) (e : Option Err) :
    (carried (pstep s ev).pcA = some e → carried s.pcA = some e ∨ ev = .finishA e) ∧
    (carried (pstep s ev).pcB = some e → carried s.pcB = some e ∨ ev = .finishB e) := by
  fun_cases pstep s ev
  -- `finish` while copying: the only way to a result
  case case1 => exact ⟨fun h => .inr (congrArg _ (Option.some.inj h)), Or.inl⟩
  case case3 => exact ⟨Or.inl, fun h => .inr (congrArg _ (Option.some.inj h))⟩
  -- `stepA`, `stepB`: nothing new carried; `send` leaves the pcs alone
  case case5 hA | case6 hA | case8 hA => rw [hA]; exact ⟨Or.inl, Or.inl⟩
  case case10 hB | case11 hB | case13 hB => rw [hB]; exact ⟨Or.inl, Or.inl⟩
  case case7 hA s' =>
    dsimp only [s']
    rw [hA, (send_pcs s _).2]
    exact ⟨Or.inl, Or.inl⟩
  case case12 hB s' =>
    dsimp only [s']
    rw [hB, (send_pcs s _).1]
    exact ⟨Or.inl, Or.inl⟩
  -- not enabled, or the closer
  case case2 | case4 | case9 | case14 | case15 | case16 => exact ⟨Or.inl, Or.inl⟩

theorem carried_run (evs : List PEv) (e : Option Err) :
    (carried (prun evs).pcA = some e → PEv.finishA e ∈ evs) ∧ (carried (prun evs).pcB = some e → PEv.finishB e ∈ evs) :=
  List.foldlRecOn evs pstep (b := {})
    (motive := fun s => (carried s.pcA = some e → PEv.finishA e ∈ evs) ∧ (carried s.pcB = some e → PEv.finishB e ∈ evs))
    ⟨nofun, nofun⟩ fun s ih ev hev =>
      have ⟨sA, sB⟩ := carried_step s ev e
      ⟨fun h => (sA h).elim ih.1 (· ▸ hev), fun h => (sB h).elim ih.2 (· ▸ hev)⟩

/-- The error a copier exits with (and hence what it sent) is the result of its own `io.CopyBuffer`. -/
theorem exit_error_is_copy_error (evs : List PEv) (e : Option Err) :
    ((prun evs).pcA = .exited e → PEv.finishA e ∈ evs) ∧ ((prun evs).pcB = .exited e → PEv.finishB e ∈ evs) :=
  ⟨fun h => (carried_run evs e).1 (h ▸ rfl), fun h => (carried_run evs e).2 (h ▸ rfl)⟩

/-! ## Part 3: both directions at the same time -/

/-- the part of the write in flight that the destination has not consumed yet, as it is in memory NOW -/
def window (bufOf : Dir → Nat) (s : DState) (d : Dir) : List Nat :=
  ((s.mem (bufOf d)).drop (s.half d).off).take ((s.half d).nr - (s.half d).off)

structure DInv (bufOf : Dir → Nat) (s : DState) : Prop where
  len : ∀ i, (s.mem i).length = bufferSize
  le : ∀ d, (s.half d).off ≤ (s.half d).nr ∧ (s.half d).nr ≤ bufferSize
  win : ∀ d, (s.half d).delivered ++ window bufOf s d = (s.half d).taken

theorem half_setHalf (s : DState) (d d' : Dir) (h : Half) :
    (s.setHalf d h).half d' = if d' = d then h else s.half d' := by
  cases d <;> cases d' <;> simp [DState.setHalf, DState.half]

theorem half_withMem (s : DState) (m : Nat → List Nat) (d : Dir) : ({ s with mem := m }).half d = s.half d := by
  cases d <;> rfl

theorem mem_setHalf (s : DState) (d : Dir) (h : Half) : (s.setHalf d h).mem = s.mem := by
  cases d <;> rfl

theorem DInv.idle {bufOf : Dir → Nat} {s : DState} (h : DInv bufOf s) (d : Dir)
    (hidle : (s.half d).nr ≤ (s.half d).off) : (s.half d).delivered = (s.half d).taken := by
  have := h.win d
  rwa [window, Nat.sub_eq_zero_of_le hidle, List.take_zero, List.append_nil] at this

/-- A step of direction `d` that replaces its half and writes at most to its own buffer: the other direction has
another buffer, so its window is as it was. -/
theorem DInv.update {bufOf : Dir → Nat} (hb : bufOf .ab ≠ bufOf .ba) {s : DState} (h : DInv bufOf s) (d : Dir)
    (hd : Half) (m : Nat → List Nat) (hlen : ∀ i, (m i).length = bufferSize)
    (hm : ∀ j, j ≠ bufOf d → m j = s.mem j) (hle : hd.off ≤ hd.nr ∧ hd.nr ≤ bufferSize)
    (hwin : hd.delivered ++ ((m (bufOf d)).drop hd.off).take (hd.nr - hd.off) = hd.taken) :
    DInv bufOf (({ s with mem := m }).setHalf d hd) := by
  refine ⟨fun i => by rw [mem_setHalf]; exact hlen i, fun d' => ?_, fun d' => ?_⟩
  · rw [half_setHalf]; split
    · exact hle
    · exact h.le d'
  · unfold window
    rw [half_setHalf, mem_setHalf]
    by_cases c : d' = d
    · rw [if_pos c, c]; exact hwin
    · have hne : bufOf d' ≠ bufOf d := by
        cases d <;> cases d'
        · exact absurd rfl c
        · exact hb.symm
        · exact hb
        · exact absurd rfl c
      rw [if_neg c, half_withMem]
      dsimp only
      rw [hm _ hne]; exact h.win d'

theorem dinv_step (bufOf : Dir → Nat) (hb : bufOf .ab ≠ bufOf .ba) (s : DState) (ev : DEv)
    (h : DInv bufOf s) : DInv bufOf (dstep bufOf s ev) := by
  fun_cases dstep bufOf s ev
  case case1 d chunk i m en =>   -- a read
    simp only [enabled, Bool.and_eq_true, Bool.not_eq_true', decide_eq_false_iff_not, decide_eq_true_eq] at en
    obtain ⟨hidle, hsz⟩ := en
    dsimp only [m, i]
    refine h.update hb d _ _ (fun i => ?_) (fun j hj => if_neg hj) ⟨Nat.zero_le _, hsz⟩ ?_
    · split
      · rw [List.length_append, List.length_drop, h.len]; exact Nat.add_sub_cancel' hsz
      · exact h.len i
    · dsimp only
      rw [if_pos rfl, List.drop_zero, Nat.sub_zero, List.take_left' rfl, h.idle d (Nat.not_lt.mp hidle)]
  case case2 d k hd en =>   -- a drain
    simp only [enabled, Bool.and_eq_true, decide_eq_true_eq] at en
    dsimp only [hd]
    refine h.update hb d _ s.mem h.len (fun _ _ => rfl) ⟨en.2, (h.le d).2⟩ ?_
    dsimp only
    rw [List.append_assoc, ← h.win d, window, ← List.drop_drop, ← List.take_add, Nat.sub_add_eq,
      Nat.add_sub_cancel' (Nat.le_sub_of_add_le' en.2)]
  case case3 => exact h   -- not enabled

/-- With one buffer per direction, after EVERY interleaving of reads and piecewise drains of the
two directions, whatever the pooled buffers contained: for each direction, the bytes consumed by the destination
followed by the not yet consumed part of the write in flight (as it is in memory now) are exactly the bytes read. -/
theorem duplex_inv_run (bufOf : Dir → Nat) (hb : bufOf .ab ≠ bufOf .ba) (m0 : Nat → List Nat)
    (hm : ∀ i, (m0 i).length = bufferSize) (evs : List DEv) : DInv bufOf (drun bufOf m0 evs) :=
  List.foldlRecOn evs (dstep bufOf)
    ⟨hm, by intro d; cases d <;> simp [DState.half], by intro d; cases d <;> simp [DState.half, window]⟩
    fun s h e _ => dinv_step bufOf hb s e h

/-- Traffic in both directions at once: what a destination has consumed is always a prefix of
what was read from the opposite side — the same bytes, in order, nothing from the other direction mixed in. -/
theorem duplex_in_order (bufOf : Dir → Nat) (hb : bufOf .ab ≠ bufOf .ba) (m0 : Nat → List Nat)
    (hm : ∀ i, (m0 i).length = bufferSize) (evs : List DEv) (d : Dir) :
    ((drun bufOf m0 evs).half d).delivered <+: ((drun bufOf m0 evs).half d).taken :=
  ⟨_, (duplex_inv_run bufOf hb m0 hm evs).win d⟩

/-- The destination is never short-changed: consumed bytes + bytes still in flight = bytes read. -/
theorem duplex_counts (bufOf : Dir → Nat) (hb : bufOf .ab ≠ bufOf .ba) (m0 : Nat → List Nat)
    (hm : ∀ i, (m0 i).length = bufferSize) (evs : List DEv) (d : Dir) :
    ((drun bufOf m0 evs).half d).delivered.length +
      (((drun bufOf m0 evs).half d).nr - ((drun bufOf m0 evs).half d).off) =
    ((drun bufOf m0 evs).half d).taken.length := by
  have h := duplex_inv_run bufOf hb m0 hm evs
  rw [← h.win d, List.length_append, window, List.length_take, List.length_drop, h.len,
    Nat.min_eq_left (Nat.sub_le_sub_right (h.le d).2 _)]

/-- Whenever a direction has no write in flight, everything read from its source so far has
arrived at its destination (in particular when the source ends: a copier only reads when its write has returned). -/
theorem duplex_complete (bufOf : Dir → Nat) (hb : bufOf .ab ≠ bufOf .ba) (m0 : Nat → List Nat)
    (hm : ∀ i, (m0 i).length = bufferSize) (evs : List DEv) (d : Dir)
    (hidle : ((drun bufOf m0 evs).half d).off = ((drun bufOf m0 evs).half d).nr) :
    ((drun bufOf m0 evs).half d).delivered = ((drun bufOf m0 evs).half d).taken :=
  (duplex_inv_run bufOf hb m0 hm evs).idle d (Nat.le_of_eq hidle.symm)

/-- the code's buffer assignment satisfies the hypothesis -/
theorem codeBufOf_distinct : codeBufOf .ab ≠ codeBufOf .ba := by decide

/-! ### non-vacuity -/

/-- reader: "ab", "" (0,nil), "c"+EOF; writer accepts everything -/
example : (copy [⟨[1,2], none⟩, ⟨[], none⟩, ⟨[3], some .eof⟩] []).calls = [[1,2],[3]] ∧
    (copy [⟨[1,2], none⟩, ⟨[], none⟩, ⟨[3], some .eof⟩] []).err = none ∧
    (copy [⟨[1,2], none⟩, ⟨[], none⟩, ⟨[3], some .eof⟩] []).written = 3 := by decide +kernel
/-- short write and invalid write are detected -/
example : (copy [⟨[1,2], none⟩] [⟨1, none⟩]).err = some .shortWrite ∧
    (copy [⟨[1,2], none⟩] [⟨3, none⟩]).err = some .invalidWrite ∧
    (copy [⟨[1,2], some (.other 7)⟩] []).err = some (.other 7) := by decide +kernel
/-- a full interleaving: A ends with EOF (nil), B with an error; channel closed with exactly that error -/
def demo : List PEv :=
  [.finishA none, .stepA, .finishB (some (.other 1)), .stepB, .stepA, .stepB, .stepB, .stepA, .stepA, .stepB, .closer]
example : (prun demo).chanClosed = true ∧ (prun demo).chan = [.other 1] ∧ (prun demo).closesX = 2 ∧
    (prun demo).closesY = 2 := by decide +kernel
/-- the closer cannot fire early -/
example : (prun [.finishA none, .stepA, .stepA, .stepA, .stepA, .closer]).chanClosed = false := by decide +kernel

/-- both directions busy at once: A→B's chunk is half consumed when B→A's chunk arrives; with the code's own
buffer per direction everything arrives intact, whatever the pooled buffers contained -/
def overlap : List DEv :=
  [.read .ab [65,65,65,65], .drain .ab 2, .read .ba [66,66,66,66], .drain .ab 2, .drain .ba 3]
example (m0 : Nat → List Nat) : ((drun codeBufOf m0 overlap).half .ab).delivered = [65,65,65,65] ∧
    ((drun codeBufOf m0 overlap).half .ba).delivered = [66,66,66] ∧
    ((drun codeBufOf m0 overlap).half .ba).taken = [66,66,66,66] ∧
    ((drun codeBufOf m0 overlap).half .ab).off = ((drun codeBufOf m0 overlap).half .ab).nr := by
  simp [drun, overlap, dstep, enabled, DState.half, DState.setHalf, codeBufOf, bufferSize]
/-- buffers as the pool hands them out exist -/
example : ∀ i, ((fun _ => List.replicate bufferSize 0 : Nat → List Nat) i).length = bufferSize := by intro i; simp
/-- sensitivity: the hypothesis "one buffer per direction" is needed — through a shared buffer the same interleaving
delivers bytes of the opposite direction -/
example (m0 : Nat → List Nat) : ((drun (fun _ => 0) m0 overlap).half .ab).delivered = [65,65,66,66] := by
  simp [drun, overlap, dstep, enabled, DState.half, DState.setHalf, bufferSize]

end Specter.C40
