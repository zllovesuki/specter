import SpecterModel.C37.Model
/-!
# C37 — Internal admin endpoints always require the admin credentials

Theorems over `apex` for EVERY configuration and request (method, path, raw path, parsed credentials, proxy
headers), over the structure regenerated from gateway/apex.go on every run.
-/
namespace Specter.C37
open Gen.C37

theorem configured_iff (c : Cfg) : configured c = true ↔ (c.user ≠ "" ∧ c.pass ≠ "") := by
  -- `and_comm`: in whichever order the generated guard lists the two fields
  simp [configured, guardFields, fieldOf, and_comm]

theorem runChain_middlewares (c : Cfg) (rq : Rq) (final : Out) :
    runChain c rq middlewares final =
      if rq.auth = some (c.user, c.pass) then (if rq.forwarded || rq.node = "" then final else .proxied rq.node)
      else .unauthorized := by
  by_cases ha : rq.auth = some (c.user, c.pass) <;> by_cases hx : (rq.forwarded || decide (rq.node = "")) = true <;>
    simp [middlewares, runChain, runMw, ha, hx]

/-- the chain: whatever follows, an outcome other than 401 needs the exact credentials -/
theorem chain_needs_auth (c : Cfg) (rq : Rq) (final : Out) (h : rq.auth ≠ some (c.user, c.pass)) :
    runChain c rq middlewares final = .unauthorized := by
  rw [runChain_middlewares, if_neg h]

theorem apex_cases (c : Cfg) (rq : Rq) :
    (apex c rq).reachesInternal = false ∨ configured c = true ∧
      apex c rq = runChain c rq middlewares (subHandler c ((routePath rq).drop internalPrefix.toList.length)) := by
  fun_cases apex c rq
  case case4 _ _ hc => exact .inr ⟨by simpa using hc, rfl⟩   -- known method, under the prefix, configured
  all_goals exact .inl rfl

/-- C37 main: an internal handler or the internal proxy (DialInternal) is reached ONLY with credentials
configured (both non-empty) and presented exactly — for every method, path and header combination. -/
theorem internal_requires_auth (c : Cfg) (rq : Rq) (h : (apex c rq).reachesInternal = true) :
    c.user ≠ "" ∧ c.pass ≠ "" ∧ rq.auth = some (c.user, c.pass) := by
  obtain hn | ⟨hc, he⟩ := apex_cases c rq
  · rw [hn] at h; cases h
  refine ⟨((configured_iff c).1 hc).1, ((configured_iff c).1 hc).2, Classical.byContradiction fun hn => ?_⟩
  rw [he, chain_needs_auth c rq _ hn] at h
  cases h

/-- No credentials configured (empty user OR empty password): the prefix is not served at all. -/
theorem no_creds_not_served (c : Cfg) (rq : Rq) (hc : c.user = "" ∨ c.pass = "")
    (hp : under internalPrefix (routePath rq) = true) :
    apex c rq = .notMounted ∨ apex c rq = .methodNotAllowed := by
  have : ¬ configured c = true := fun h => hc.elim ((configured_iff c).1 h).1 ((configured_iff c).1 h).2
  unfold apex
  by_cases hm : rq.knownMethod = true
  · left; simp [hm, hp, this]
  · right; simp [hm]

theorem subHandler_ne_proxied (c : Cfg) (sub : List Char) (t : String) : subHandler c sub ≠ .proxied t := by
  fun_cases subHandler c sub <;> simp

/-- A request that asks to be proxied to another node is authenticated first. -/
theorem proxied_request_still_authenticated (c : Cfg) (rq : Rq) (t : String) (h : apex c rq = .proxied t) :
    rq.auth = some (c.user, c.pass) ∧ c.user ≠ "" ∧ c.pass ≠ "" ∧ t = rq.node ∧ rq.forwarded = false ∧ rq.node ≠ "" := by
  have hr : (apex c rq).reachesInternal = true := by rw [h]; rfl
  obtain ⟨h1, h2, h3⟩ := internal_requires_auth c rq hr
  refine ⟨h3, h1, h2, ?_⟩
  obtain hn | ⟨-, he⟩ := apex_cases c rq
  · rw [hn] at hr; cases hr
  rw [he, runChain_middlewares, if_pos h3] at h
  split at h
  · exact absurd h (subHandler_ne_proxied _ _ _)
  · next hx => simp at hx; exact ⟨(Out.proxied.inj h).symm, hx.1, hx.2⟩

/-- Neither proxy header lets a request without the right credentials past the 401. -/
theorem forwarded_header_cannot_skip_auth (c : Cfg) (rq : Rq) (node : String) (fwd : Bool)
    (h : rq.auth ≠ some (c.user, c.pass)) :
    (apex c { rq with node := node, forwarded := fwd }).reachesInternal = false := by
  cases hr : (apex c { rq with node := node, forwarded := fwd }).reachesInternal with
  | false => rfl
  | true => exact absurd (internal_requires_auth c _ hr).2.2 h

/-- BasicAuth is installed before the internal proxy (obligation on the generated order). -/
theorem auth_precedes_proxy :
    middlewares.idxOf Mw.basicAuth < middlewares.idxOf Mw.internalProxy ∧ Mw.basicAuth ∈ middlewares := by decide +kernel

/-- Nothing outside the guarded subtree is registered under the internal prefix. -/
theorem root_patterns_outside_internal :
    ∀ p ∈ rootPatterns, internalPrefix.toList.isPrefixOf p.toList = false := by decide +kernel

/-- Liveness (the theorems above are not vacuous): with credentials configured and presented, a known method
under the prefix IS served, or proxied when a node address is given and the request was not already forwarded. -/
theorem authorized_is_served (c : Cfg) (rq : Rq) (hu : c.user ≠ "") (hp : c.pass ≠ "")
    (ha : rq.auth = some (c.user, c.pass)) (hm : rq.knownMethod = true)
    (hi : under internalPrefix (routePath rq) = true) :
    apex c rq = if rq.forwarded || rq.node = "" then subHandler c ((routePath rq).drop internalPrefix.toList.length)
                else .proxied rq.node := by
  simp [apex, hm, hi, (configured_iff c).2 ⟨hu, hp⟩, runChain_middlewares, ha]

/-! ## Non-vacuity -/
private def cfg1 : Cfg := ⟨"admin", "secret", true, true, false, false⟩
example : apex cfg1 ⟨true, "/_internal/acme/x", "", some ("admin", "secret"), "", false⟩ = .served "/acme" := by decide +kernel
example : apex cfg1 ⟨true, "/_internal/tun", "", some ("admin", "secret"), "", false⟩ = .served "catchall" := by decide +kernel
example : apex cfg1 ⟨true, "/_internal/acme", "", some ("admin", "secret"), "10.0.0.2:1", false⟩ = .proxied "10.0.0.2:1" := by decide +kernel
example : apex cfg1 ⟨true, "/_internal/acme", "", some ("admin", "Secret"), "10.0.0.2:1", false⟩ = .unauthorized := by decide +kernel
example : apex cfg1 ⟨true, "/_internal/acme", "", none, "10.0.0.2:1", true⟩ = .unauthorized := by decide +kernel
example : apex { cfg1 with pass := "" } ⟨true, "/_internal/acme", "", some ("admin", ""), "", false⟩ = .notMounted := by decide +kernel
example : apex cfg1 ⟨true, "/_internal/acme", "/_internal%2Facme", some ("admin", "secret"), "", false⟩ = .outside := by decide +kernel

end Specter.C37
