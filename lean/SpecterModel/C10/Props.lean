import SpecterModel.Lists
import SpecterModel.C03.Props
import SpecterModel.C08.Props
/-!
# C10 — Ring-wide key listing returns exactly the stored keys

`ringWalk` is the model of the ring walk inside `LocalNode.ListKeys` (repeated
`FindSuccessor(next.ID()+1)` issued at the listing node, with duplicate detection). On a stable
ring the walk started at any member visits EVERY member exactly once and ends at the start node;
the per-node listings are then concatenated, so (with C05's single-holder placement) every stored
key is reported exactly once per kind of data it holds.
-/
namespace Specter.C10
open Specter.Ring Specter.C01 Specter.C03

/-- lookups issued by member `n` complete within the model's fuel constant, for every key -/
def WalkComplete (net : Net) (n : Nat) : Prop := ∀ key, key < M → ∃ o, findSucc net FUEL n key = .found o

theorem walk_step_owner (net : Net) (hs : Stable net) (n cur : Nat) (hn : Mem net n) (hw : WalkComplete net n) :
    ∃ nx, findSucc net FUEL n (moduloSum cur 1) = .found nx ∧ IsOwner net (moduloSum cur 1) nx := by
  obtain ⟨nx, hf⟩ := hw _ (moduloSum_lt cur 1)
  exact ⟨nx, hf, lookup_found_owner net hs n _ FUEL nx hn (moduloSum_lt cur 1) hf⟩

theorem next_of_owner (net : Net) (hlt : ∀ n, Mem net n → n < M) (cur nx : Nat) (hc : cur < M)
    (ho : IsOwner net (moduloSum cur 1) nx) : ∀ m, Mem net m → cw nx cur ≤ cw m cur := by
  intro m hm
  rw [← dist_moduloSum_one cur nx hc (hlt nx ho.1), ← dist_moduloSum_one cur m hc (hlt m hm)]
  exact Nat.add_le_add_right (ho.2 m hm) 1

theorem ringWalk_shape (net : Net) (n : Nat) : ∀ (fuel cur : Nat) (seen l : List Nat),
    ringWalk net n fuel cur seen = .ok l → seen.Nodup → n ∉ seen →
      l.Nodup ∧ l.getLast? = some n ∧ ∃ mid, l = seen ++ mid ++ [n] := by
  intro fuel cur seen l
  fun_induction ringWalk net n fuel cur seen
  -- out of fuel, a failed lookup, a repeated node: no list
  case case1 | case2 | case4 => exact nofun
  -- back at `n`
  case case3 seen _ _ _ =>
    intro h hnd hns; injection h with h; subst h
    exact ⟨nodup_snoc hnd hns, by simp, ⟨[], by simp⟩⟩
  -- on to a new node `nx`
  case case5 seen nx _ c1 c2 ih =>
    intro h hnd hns
    have hns' : n ∉ seen ++ [nx] := by
      simp only [List.mem_append, List.mem_singleton, not_or]
      exact ⟨hns, fun e => c1 (by simp [e])⟩
    obtain ⟨h1, h2, mid, h3⟩ := ih h (nodup_snoc hnd (by simpa using c2)) hns'
    exact ⟨h1, h2, nx :: mid, by rw [h3]; simp⟩

/-- the walk never reports "ring is unstable" for a node it has not seen: the error needs a repeated id -/
theorem unstable_needs_repeat (net : Net) (n : Nat) : ∀ (fuel cur : Nat) (seen : List Nat),
    ringWalk net n fuel cur seen = .error .unstable →
      ∃ cur' seen', seen <+: seen' ∧ ∃ nx, findSucc net FUEL n (moduloSum cur' 1) = .found nx ∧ nx ≠ n ∧ nx ∈ seen' := by
  intro fuel cur seen
  fun_induction ringWalk net n fuel cur seen
  -- out of fuel, or back at `n`: another answer
  case case1 | case3 => exact nofun
  case case2 hf =>
    -- a failed lookup is reported with its own error, which is never "unstable"
    intro h; injection h with h; subst h
    exact absurd (Specter.C08.findSucc_err_isLookupError net _ _ _ _ hf) (by simp [Specter.C08.isLookupError])
  case case4 cur seen nx hf c1 c2 =>
    exact fun _ => ⟨cur, seen, List.prefix_refl _, nx, hf, by simpa using c1, by simpa using c2⟩
  case case5 ih =>
    intro h
    obtain ⟨cur', seen', hp, r⟩ := ih h
    exact ⟨cur', seen', List.IsPrefix.trans (List.prefix_append _ _) hp, r⟩

/-- stepping from `cur` to `nx`: no member lies strictly inside `(cur, nx)`, seen from `n` -/
theorem walk_step_gap (net : Net) (hs : Stable net) (n cur nx : Nat) (hn : Mem net n)
    (hcur : Mem net cur) (hf : findSucc net FUEL n (moduloSum cur 1) = .found nx) :
    Mem net nx ∧ ∀ m, Mem net m → dist n m ≤ dist n cur ∨ (nx ≠ n ∧ dist n nx ≤ dist n m) := by
  have hown := lookup_found_owner net hs n _ FUEL nx hn (moduloSum_lt cur 1) hf
  exact ⟨hown.1, fun m hm => gap_rebase cur nx n m (hs.lt cur hcur) (hs.lt nx hown.1) (hs.lt n hn) (hs.lt m hm)
    (next_of_owner net hs.lt cur nx (hs.lt cur hcur) hown m hm)⟩

/-- **Coverage.** Invariant of the walk on a stable ring: every member other than the start node whose
clockwise distance from the start is at most that of the current node has been visited. -/
theorem ringWalk_covers (net : Net) (hs : Stable net) (n : Nat) (hn : Mem net n) (hw : WalkComplete net n) :
    ∀ (fuel cur : Nat) (seen l : List Nat), ringWalk net n fuel cur seen = .ok l →
      Mem net cur →
      (∀ m, Mem net m → m ≠ n → dist n m ≤ dist n cur → m ∈ seen) →
      ∀ m, Mem net m → m ∈ l := by
  intro fuel cur seen l
  fun_induction ringWalk net n fuel cur seen
  case case1 | case2 | case4 => exact nofun
  -- back at `n`: no member comes later than `cur`
  case case3 cur seen nx hf c1 =>
    intro h hcur hinv m hm; injection h with h; subst h
    obtain ⟨_, hgap⟩ := walk_step_gap net hs n cur nx hn hcur hf
    simp only [List.mem_append, List.mem_singleton]
    by_cases hmn : m = n
    · exact .inr hmn
    · exact .inl (hinv m hm hmn ((hgap m hm).resolve_right fun h => h.1 (by simpa using c1)))
  -- on to `nx`: a member that comes no later than `nx` and later than `cur` is `nx`
  case case5 cur seen nx hf _ _ ih =>
    intro h hcur hinv
    obtain ⟨hnxm, hgap⟩ := walk_step_gap net hs n cur nx hn hcur hf
    refine ih h hnxm (fun m' hm' hm'n hle => ?_)
    simp only [List.mem_append, List.mem_singleton]
    rcases hgap m' hm' with h1 | ⟨_, h1⟩
    · exact .inl (hinv m' hm' hm'n h1)
    · exact .inr ((dist_eq_iff n m' nx (hs.lt n hn) (hs.lt m' hm') (hs.lt nx hnxm)).mp (Nat.le_antisymm hle h1))

/-- **C10 (walk).** On a stable ring the walk started at any member `n` succeeds only with a list that
contains every member, has no duplicates and ends at `n`. -/
theorem ring_walk_enumerates (net : Net) (hs : Stable net) (n : Nat) (hn : Mem net n) (hw : WalkComplete net n)
    (fuel : Nat) (l : List Nat) (h : ringWalk net n fuel n [] = .ok l) :
    (∀ m, Mem net m → m ∈ l) ∧ l.Nodup ∧ l.getLast? = some n := by
  obtain ⟨h1, h2, _⟩ := ringWalk_shape net n fuel n [] l h (by simp) (by simp)
  refine ⟨ringWalk_covers net hs n hn hw fuel n [] l h hn ?_, h1, h2⟩
  intro m hm hmn hle
  rw [dist_self, Nat.le_zero, dist_zero_iff n m (hs.lt n hn) (hs.lt m hm)] at hle
  exact absurd hle.symm hmn

/-! non-vacuity: the walk on the three-node ring of C01 -/

def walkList (r : Except Err (List Nat)) : Option (List Nat) := match r with | .ok l => some l | .error _ => none
example : walkList (ringWalk Specter.C01.ring3 0 10 0 []) = some [5, 2^48-1, 0] := by decide +kernel
example : walkList (ringWalk Specter.C01.ring3 5 10 5 []) = some [2^48-1, 0, 5] := by decide +kernel

end Specter.C10
