import SpecterModel.Lists
import SpecterModel.C49.Model
/-!
# C49 — Certificate storage over the DHT behaves like a file store with exclusive locks

File store: after ANY history a load returns the value of the last store not followed by a delete
(`load_last_store`); the non-recursive listing is each immediate child exactly once, for EVERY key set
(`list_children_once`: the loop of acme/storage.go skips whatever is not below `prefix/`).

Locks (lease model with explicit time): `lstep_effect` says once what a step can do to the lock state (`Effect`);
the invariant (`inv_reachable` ⇒ `holders_exclusive`) and the survival of a valid holder
(`held_until_unlock_or_expiry` ⇒ `no_other_obtains_while_held`) are proved per effect. The same with the renewal
goroutines and the contexts `Lock` was called with (`held_with_ticker`, `acquire_ctx_irrelevant`,
`ticker_rounds_keepAlive`), and for a renewal that is answered late (`slow_renewal_keeps`).
-/
namespace Specter.C49

/-! ## the KV after a history (`get_runRev`); load and delete -/

theorem kvKeyName_inj {a b : Path} : kvKeyName a = kvKeyName b ↔ a = b := by
  unfold kvKeyName; simp

section
variable {α β : Type} [BEq α] [LawfulBEq α] [DecidableEq α]

theorem lookup_cons_ite (l : List (α × β)) (a j : α) (b : β) :
    ((a, b) :: l).lookup j = if j = a then some b else l.lookup j := by
  rw [List.lookup_cons]
  split <;> simp_all

theorem lookup_filter_ne (l : List (α × β)) (k j : α) :
    (l.filter (·.1 != k)).lookup j = if j = k then none else l.lookup j := by
  induction l with
  | nil => simp
  | cons e t ih =>
    obtain ⟨a, b⟩ := e
    rw [List.filter_cons, lookup_cons_ite]
    by_cases ha : a = k
    · rw [if_neg (by simp [ha]), ih, ha]
      split <;> rfl
    · rw [if_pos (by simpa using ha), lookup_cons_ite, ih]
      split
      · next hja => rw [if_neg (hja ▸ ha)]
      · rfl
end

theorem get_put (kv : Kv) (k k' : Path) (v : Option Bytes) :
    (kv.put k v).get k' = if k' = k then v else kv.get k' := by
  unfold Kv.put Kv.get
  rw [lookup_cons_ite, lookup_filter_ne]
  by_cases h : k' = k
  · rw [if_pos h, if_pos h]
  · rw [if_neg h, if_neg h, if_neg h]

theorem get_runRev (kv0 : Kv) (h : List Op) (k : Path) :
    (runRev kv0 h).get (kvKeyName k) = lastWrite kv0 h k := by
  induction h with
  | nil => rfl
  | cons op h ih =>
    cases op <;> simp only [runRev, step, lastWrite, get_put, kvKeyName_inj, ih]

/-- **C49 (load).** After ANY history of store/load/delete/exists/stat/list operations, loading `k`
returns the value of the last store to `k` that no later delete removed, and "does not exist" otherwise. -/
theorem load_last_store (kv0 : Kv) (h : List Op) (k : Path) :
    (step (runRev kv0 h) (.load k)).2 =
      match lastWrite kv0 h k with | some v => .val v | none => .notExist := by
  show (match (runRev kv0 h).get (kvKeyName k) with | some v => Out.val v | none => Out.notExist) = _
  rw [get_runRev]

theorem load_after_store (kv0 : Kv) (h : List Op) (k : Path) (v : Bytes) :
    (step (runRev kv0 (.store k v :: h)) (.load k)).2 = .val v := by
  rw [load_last_store]; simp [lastWrite]

/-- **C49 (delete).** A deleted key does not exist: `Exists` is false, `Load` and `Stat` say not-exist,
until it is stored again. -/
theorem deleted_not_exists (kv0 : Kv) (h : List Op) (k : Path) :
    let s := runRev kv0 (.delete k :: h)
    (step s (.exists_ k)).2 = .bool false ∧ (step s (.load k)).2 = .notExist ∧
    (step s (.stat k)).2 = .notExist := by
  simp only [step, get_runRev, lastWrite, if_true]
  exact ⟨rfl, trivial, trivial⟩

/-! ## listing

`childOf` is the body of the non-recursive loop of `List`, `listLoop` the loop with its `seen` map. -/

theorem trimPrefix_append (p s : Path) : trimPrefix p (p ++ s) = s := by
  unfold trimPrefix; simp

theorem kvKeyName_append (a r : Path) : kvKeyName a ++ r = kvKeyName (a ++ r) :=
  List.append_assoc ..

theorem kvKeyName_prefix {a b : Path} : kvKeyName a <+: kvKeyName b ↔ a <+: b :=
  List.prefix_append_right_inj _

theorem prefix_userDir (p : Path) : p <+: userDir p := by
  fun_cases userDir p
  · exact List.prefix_refl p
  · exact List.prefix_append p _

theorem dirPrefix_eq (p : Path) : dirPrefix p = kvKeyPrefix ++ userDir p := by
  simp only [dirPrefix, endsWithSlash, userDir, kvKeyName, List.getLast?_append]
  cases hl : p.getLast? with
  | none => rw [List.getLast?_eq_none_iff.mp hl]; rfl
  | some c =>
    have hp : p ≠ [] := fun h => by simp [h] at hl
    by_cases hc : c = '/' <;> simp [hc, hp]

theorem takeWhile_seg (seg rest : Path) (hs : '/' ∉ seg) (hr : rest = [] ∨ ∃ r, rest = '/' :: r) :
    (seg ++ rest).takeWhile (· != '/') = seg := by
  rw [List.takeWhile_append_of_pos fun a ha => bne_iff_ne.mpr (ne_of_mem_of_not_mem ha hs)]
  rcases hr with rfl | ⟨r, rfl⟩ <;> simp

theorem childOf_append (pfx sub : Path) :
    childOf pfx (pfx ++ sub) = some (trimPrefix kvKeyPrefix (pfx ++ sub.takeWhile (· != '/'))) := by
  have hp : pfx.isPrefixOf (pfx ++ sub) = true := by simp
  rw [childOf, if_pos hp, trimPrefix_append]
  by_cases hm : '/' ∈ sub
  · simp [hm]
  · have := takeWhile_seg sub [] hm (.inl rfl)
    simp only [List.append_nil] at this
    simp [hm, this]

theorem childOf_eq_none {pfx k : Path} (h : ¬ pfx <+: k) : childOf pfx k = none := by
  rw [childOf, if_neg (by rwa [List.isPrefixOf_iff_prefix])]

theorem split_seg (sub : Path) :
    ∃ seg rest, sub = seg ++ rest ∧ '/' ∉ seg ∧ (rest = [] ∨ ∃ r, rest = '/' :: r) := by
  induction sub with
  | nil => exact ⟨[], [], rfl, by simp, .inl rfl⟩
  | cons a t ih =>
    by_cases ha : a = '/'
    · exact ⟨[], a :: t, rfl, by simp, .inr ⟨t, by rw [ha]⟩⟩
    · obtain ⟨seg, rest, rfl, hs, hr⟩ := ih
      exact ⟨a :: seg, rest, rfl, by simp [hs, Ne.symm ha], hr⟩

theorem childOf_seg (d seg rest : Path) (hs : '/' ∉ seg) (hr : rest = [] ∨ ∃ r, rest = '/' :: r) :
    childOf (kvKeyPrefix ++ d) (kvKeyPrefix ++ d ++ (seg ++ rest)) = some (d ++ seg) := by
  rw [childOf_append, takeWhile_seg seg rest hs hr, List.append_assoc, trimPrefix_append]

/-! Branches of `listLoop`: no key left, key not below the prefix, child already found, new child. -/

theorem mem_listLoop (pfx : Path) (ks found : List Path) (c : Path) :
    c ∈ listLoop pfx ks found ↔ c ∈ found ∨ ∃ k ∈ ks, childOf pfx k = some c := by
  fun_induction listLoop pfx ks found with
  | case1 found => simp
  | case2 k ks found hk ih => simp [ih, hk]
  | case3 k ks found d hk hd ih =>
    simp only [ih, List.mem_cons, exists_eq_or_imp, hk, Option.some.injEq]
    constructor
    · exact .imp_right .inr
    · rintro (h | rfl | h)
      · exact .inl h
      · exact .inl hd
      · exact .inr h
  | case4 k ks found d hk hd ih => simp [ih, hk, or_assoc, eq_comm (a := c)]

theorem nodup_listLoop (pfx : Path) (ks found : List Path) (h : found.Nodup) :
    (listLoop pfx ks found).Nodup := by
  fun_induction listLoop pfx ks found with
  | case1 => exact h
  | case2 _ _ _ _ ih | case3 _ _ _ _ _ _ ih => exact ih h
  | case4 k ks found d hk hd ih => exact ih (nodup_snoc h hd)

/-- SPEC: `c` is an immediate child of directory `p` w.r.t. the stored (KV-level) keys `keys`:
`c = dir(p) ++ seg` for one path segment `seg`, and some stored key is `c` itself or lies below `c/`. -/
def IsChild (keys : List Path) (p c : Path) : Prop :=
  ∃ seg, c = userDir p ++ seg ∧ '/' ∉ seg ∧
    ∃ k ∈ keys, k = kvKeyName c ∨ (kvKeyName c ++ ['/']) <+: k

theorem childOf_iff (p k c : Path) :
    childOf (dirPrefix p) k = some c ↔
      ∃ seg, c = userDir p ++ seg ∧ '/' ∉ seg ∧ (k = kvKeyName c ∨ (kvKeyName c ++ ['/']) <+: k) := by
  rw [dirPrefix_eq]
  constructor
  · intro h
    by_cases hp : kvKeyPrefix ++ userDir p <+: k
    · obtain ⟨sub, rfl⟩ := hp
      obtain ⟨seg, rest, rfl, hs, hr⟩ := split_seg sub
      rw [childOf_seg _ _ _ hs hr] at h
      cases h
      refine ⟨seg, rfl, hs, hr.imp ?_ ?_⟩
      · rintro rfl; simp [kvKeyName]
      · rintro ⟨r, rfl⟩; exact ⟨r, by simp [kvKeyName]⟩
    · rw [childOf_eq_none hp] at h; cases h
  · rintro ⟨seg, rfl, hs, rfl | ⟨r, rfl⟩⟩
    · simpa [kvKeyName] using childOf_seg (userDir p) seg [] hs (.inl rfl)
    · simpa [kvKeyName] using childOf_seg (userDir p) seg ('/' :: r) hs (.inr ⟨r, rfl⟩)

/-- **C49 (listing).** For EVERY list of stored keys (whatever order `ListKeys` returns them in, with or
without sibling keys that merely share the string prefix), the non-recursive listing contains no entry
twice and contains exactly the immediate children of `p`. -/
theorem list_children_once (keys : List Path) (p : Path) :
    (listNonRec keys p).Nodup ∧ ∀ c, c ∈ listNonRec keys p ↔ IsChild keys p c := by
  refine ⟨nodup_listLoop _ _ _ List.nodup_nil, fun c => ?_⟩
  unfold listNonRec IsChild
  rw [mem_listLoop]
  simp only [List.not_mem_nil, false_or, childOf_iff]
  constructor
  · rintro ⟨k, hk, seg, h1, h2, h3⟩; exact ⟨seg, h1, h2, k, hk, h3⟩
  · rintro ⟨seg, h1, h2, k, hk, h3⟩; exact ⟨k, hk, seg, h1, h2, h3⟩

theorem nonEmpty_iff (v : Option Bytes) : nonEmpty v = true ↔ ∃ a t, v = some (a :: t) := by
  fun_cases nonEmpty v
  · exact ⟨fun _ => ⟨_, _, rfl⟩, fun _ => rfl⟩
  · rename_i h
    exact ⟨nofun, fun ⟨a, t, hv⟩ => (h a t hv).elim⟩

theorem mem_listSimple (kv : Kv) (pfx k : Path) :
    k ∈ kv.listSimple pfx ↔ pfx <+: k ∧ ∃ a t, kv.get k = some (a :: t) := by
  unfold Kv.listSimple
  simp only [List.mem_filter, Bool.and_eq_true, List.isPrefixOf_iff_prefix, nonEmpty_iff]
  refine and_iff_right_of_imp fun ⟨_, a, t, hg⟩ => ?_
  unfold Kv.get at hg
  cases hl : kv.lookup k with
  | none => rw [hl] at hg; cases hg
  | some v =>
    obtain ⟨l₁, l₂, rfl, _⟩ := List.lookup_eq_some_iff.mp hl
    simp

theorem mem_listSimple_kvKeyName (kv : Kv) (p k : Path) :
    k ∈ kv.listSimple (kvKeyName p) ↔
      ∃ u, k = kvKeyName u ∧ p <+: u ∧ ∃ a t, kv.get (kvKeyName u) = some (a :: t) := by
  rw [mem_listSimple]
  constructor
  · rintro ⟨⟨r, rfl⟩, h⟩
    exact ⟨p ++ r, kvKeyName_append p r, ⟨r, rfl⟩, kvKeyName_append p r ▸ h⟩
  · rintro ⟨u, rfl, hp, h⟩
    exact ⟨kvKeyName_prefix.mpr hp, h⟩

theorem mem_list_rec (kv : Kv) (p c : Path) :
    c ∈ list kv p true ↔ p <+: c ∧ ∃ a t, kv.get (kvKeyName c) = some (a :: t) := by
  unfold list listRec
  simp only [if_true, List.mem_map, mem_listSimple_kvKeyName]
  constructor
  · rintro ⟨_, ⟨u, rfl, hp, hg⟩, rfl⟩
    rw [kvKeyName, trimPrefix_append]
    exact ⟨hp, hg⟩
  · rintro ⟨hp, hg⟩
    exact ⟨_, ⟨c, rfl, hp, hg⟩, trimPrefix_append _ _⟩

theorem mem_list_nonrec (kv : Kv) (p c : Path) :
    c ∈ list kv p false ↔
      ∃ seg, c = userDir p ++ seg ∧ '/' ∉ seg ∧
        ∃ u a t, kv.get (kvKeyName u) = some (a :: t) ∧ (u = c ∨ (c ++ ['/']) <+: u) := by
  unfold list
  simp only [Bool.false_eq_true, if_false]
  rw [(list_children_once _ p).2 c]
  refine exists_congr fun seg => and_congr_right fun hc => and_congr_right fun _ => ?_
  simp only [mem_listSimple_kvKeyName]
  constructor
  · rintro ⟨_, ⟨u, rfl, _, a, t, hg⟩, h⟩
    rw [kvKeyName_inj, kvKeyName_append, kvKeyName_prefix] at h
    exact ⟨u, a, t, hg, h⟩
  · rintro ⟨u, a, t, hg, h⟩
    refine ⟨_, ⟨u, rfl, ?_, a, t, hg⟩, by rwa [kvKeyName_inj, kvKeyName_append, kvKeyName_prefix]⟩
    have hpc : p <+: c := hc ▸ (prefix_userDir p).trans (List.prefix_append _ _)
    rcases h with rfl | h
    · exact hpc
    · exact hpc.trans ((List.prefix_append _ _).trans h)

/-- **C49 (listing, end to end).** After any history starting from the empty store, the non-recursive
listing of `p` has no duplicates and consists exactly of the immediate children of `p` among the keys
whose last stored value is non-empty and not deleted. -/
theorem list_after_history (h : List Op) (p c : Path) :
    (list (runRev [] h) p false).Nodup ∧
    (c ∈ list (runRev [] h) p false ↔
      ∃ seg, c = userDir p ++ seg ∧ '/' ∉ seg ∧
        ∃ u a t, lastWrite [] h u = some (a :: t) ∧ (u = c ∨ (c ++ ['/']) <+: u)) := by
  refine ⟨(list_children_once _ p).1, ?_⟩
  rw [mem_list_nonrec]
  simp only [get_runRev]

/-- recursive listing, as coded: every stored non-empty key having `p` as a STRING prefix, once
(so `a/bc/q` is listed under `a/b`; the property statement is silent about recursive listing). -/
theorem list_recursive_exact (h : List Op) (p c : Path) :
    c ∈ list (runRev [] h) p true ↔ p <+: c ∧ ∃ a t, lastWrite [] h c = some (a :: t) := by
  rw [mem_list_rec, get_runRev]

/-! ## locks -/

/-- instance `i` validly holds the lock: its token is the current lease and the lease has not expired -/
def ValidHolds (s : LockSt) (i : Nat) : Prop := ∃ tok, s.holder i = some tok ∧ tok = s.lease ∧ s.now < tok

/-- invariant: every remembered token is either already expired, or it is the current lease and no
other instance remembers the same token -/
def Inv (s : LockSt) : Prop :=
  ∀ i c, s.holder i = some c → c ≤ s.now ∨ (c = s.lease ∧ ∀ j d, s.holder j = some d → d = s.lease → j = i)

theorem validHolds_iff {s : LockSt} {i : Nat} : ValidHolds s i ↔ s.holder i = some s.lease ∧ s.now < s.lease :=
  ⟨fun ⟨_, hh, he, hn⟩ => he ▸ ⟨hh, hn⟩, fun ⟨hh, hn⟩ => ⟨_, hh, rfl, hn⟩⟩

theorem ValidHolds.holder {s : LockSt} {i : Nat} (h : ValidHolds s i) : s.holder i = some s.lease :=
  (validHolds_iff.mp h).1

theorem ValidHolds.lt {s : LockSt} {i : Nat} (h : ValidHolds s i) : s.now < s.lease :=
  (validHolds_iff.mp h).2

instance (s : LockSt) (i : Nat) : Decidable (ValidHolds s i) :=
  decidable_of_iff _ validHolds_iff.symm

theorem lookup_setHolder (hs : List (Nat × Nat)) (i t j : Nat) :
    (setHolder hs i t).lookup j = if j = i then some t else hs.lookup j := by
  unfold setHolder
  rw [lookup_cons_ite, lookup_filter_ne]
  split <;> rfl

theorem lookup_dropHolder (hs : List (Nat × Nat)) (i j : Nat) :
    (dropHolder hs i).lookup j = if j = i then none else hs.lookup j :=
  lookup_filter_ne hs i j

theorem durationGuard_pos {ttl td : Nat} (h : durationGuard ttl = some td) : 0 < td := by
  unfold durationGuard second at h
  simp only at h
  split at h
  · cases h
  · cases h; omega

/-- the state after `i` acquired or renewed for `td` -/
def install (s : LockSt) (i td : Nat) : LockSt :=
  { s with lease := s.now + td, holders := setHolder s.holders i (s.now + td) }

theorem holder_install (s : LockSt) (i td j : Nat) :
    (install s i td).holder j = if j = i then some (s.now + td) else s.holder j :=
  lookup_setHolder ..

theorem validHolds_install (s : LockSt) (i : Nat) {td : Nat} (hpos : 0 < td) : ValidHolds (install s i td) i :=
  ⟨_, (holder_install s i td i).trans (if_pos rfl), rfl, Nat.lt_add_of_pos_right hpos⟩

/-! what `lstep` does, one equation per branch of the code (all branches, used below or not) -/
section eqs
variable {s : LockSt} {i ttl td tok d : Nat}

theorem lstep_tick : lstep s (.tick d) = ({ s with now := s.now + d }, .none) := rfl

theorem lstep_lockTry_invalid (hg : durationGuard ttl = none) :
    lstep s (.lockTry i ttl) = (s, .invalidTTL) := by
  simp only [lstep, doLockTry, hg]

theorem lstep_lockTry_conflict (hg : durationGuard ttl = some td) (hl : s.now < s.lease) :
    lstep s (.lockTry i ttl) = (s, .conflict) := by
  simp only [lstep, doLockTry, hg, gt_iff_lt, hl, if_true]

theorem lstep_lockTry_ok (hg : durationGuard ttl = some td) (hl : s.lease ≤ s.now) :
    lstep s (.lockTry i ttl) =
      (install s i td, .acquired (s.now + td)) := by
  simp only [lstep, doLockTry, install, hg, gt_iff_lt, Nat.not_lt.mpr hl, if_false]

theorem lstep_renew_notHolder (hh : s.holder i = none) : lstep s (.renew i ttl) = (s, .notHolder) := by
  simp only [lstep, doRenew, hh]

theorem lstep_renew_invalid (hh : s.holder i = some tok) (hg : durationGuard ttl = none) :
    lstep s (.renew i ttl) = (s, .invalidTTL) := by
  simp only [lstep, doRenew, hh, hg]

theorem lstep_renew_expired (hh : s.holder i = some tok) (hg : durationGuard ttl = some td)
    (he : s.lease = 0 ∨ s.lease < s.now ∨ s.lease ≠ tok) : lstep s (.renew i ttl) = (s, .expired) := by
  simp only [lstep, doRenew, hh, hg]
  by_cases h0 : s.lease = 0
  · rw [if_pos h0]
  by_cases h1 : s.now > s.lease
  · rw [if_neg h0, if_pos h1]
  rw [if_neg h0, if_neg h1, if_pos ((he.resolve_left h0).resolve_left h1)]

theorem lstep_renew_ok (hh : s.holder i = some s.lease) (hg : durationGuard ttl = some td)
    (h0 : s.lease ≠ 0) (h1 : s.now ≤ s.lease) :
    lstep s (.renew i ttl) =
      (install s i td, .renewed (s.now + td)) := by
  simp only [lstep, doRenew, install, hh, hg, h0, gt_iff_lt, Nat.not_lt.mpr h1, ne_eq, not_true_eq_false, if_false]

/-- `RenewLockLease(key, dur)` is the ticker's `renewLeaseOnce`: the caller's duration plays no role -/
theorem lstep_renewLock (dur : Int) : lstep s (.renewLock i dur ttl) = lstep s (.renew i ttl) := rfl

theorem lstep_unlock_notHolder (hh : s.holder i = none) : lstep s (.unlock i) = (s, .notHolder) := by
  simp only [lstep, doUnlock, hh]

theorem lstep_unlock_released (hh : s.holder i = some s.lease) :
    lstep s (.unlock i) = ({ s with lease := 0, holders := dropHolder s.holders i }, .released) := by
  simp only [lstep, doUnlock, hh, if_true]

theorem lstep_unlock_expired (hh : s.holder i = some tok) (hl : s.lease ≠ tok) :
    lstep s (.unlock i) = ({ s with holders := dropHolder s.holders i }, .expired) := by
  simp only [lstep, doUnlock, hh, hl, if_false]
end eqs

/-- What a step does to the lock state, forgetting which branch of the code did it: nothing; time passes; `i` installs
a fresh token (`Acquire` over a free or lapsed lease, `Renew` by the instance that remembers the current one); `i`
forgets its token, which frees the lease iff that token is current. -/
inductive Effect (s : LockSt) : Ev → LockSt → Prop
  | same (e : Ev) : Effect s e s
  | tick (d : Nat) : Effect s (.tick d) { s with now := s.now + d }
  | fresh (e : Ev) (i td : Nat) : 0 < td → s.lease ≤ s.now ∨ s.holder i = some s.lease →
      Effect s e (install s i td)
  | drop (i tok : Nat) : s.holder i = some tok →
      Effect s (.unlock i) { s with lease := if s.lease = tok then 0 else s.lease, holders := dropHolder s.holders i }

theorem renew_effect (s : LockSt) (e : Ev) (i ttl : Nat) : Effect s e (doRenew s i ttl).1 := by
  fun_cases doRenew s i ttl
  case case6 tok hh td hg _ _ he =>
    -- accepted
    rw [← Decidable.not_not.mp he] at hh
    exact .fresh e i td (durationGuard_pos hg) (.inr hh)
  all_goals exact .same e

theorem lstep_effect (s : LockSt) (e : Ev) : Effect s e (lstep s e).1 := by
  cases e with
  | tick d => exact .tick d
  | lockTry i ttl =>
    show Effect s _ (doLockTry s i ttl).1
    fun_cases doLockTry s i ttl
    -- acquired
    case case3 td hg hl => exact .fresh _ i td (durationGuard_pos hg) (.inl (Nat.le_of_not_lt hl))
    all_goals exact .same _
  | renew i ttl => exact renew_effect s _ i ttl
  | renewLock i dur ttl => exact renew_effect s _ i ttl
  | unlock i =>
    show Effect s _ (doUnlock s i).1
    fun_cases doUnlock s i
    -- not a holder; current token; stale token
    case case1 => exact .same _
    case case2 hh => simpa using Effect.drop i _ hh
    case case3 tok hh hl => simpa [hl] using Effect.drop i tok hh

/-- what the invariant is for -/
theorem holder_unique {s : LockSt} {i j : Nat} (hinv : Inv s) (hi : ValidHolds s i)
    (hj : s.holder j = some s.lease) : j = i := by
  rcases hinv i _ hi.holder with h | ⟨_, h⟩
  · exact absurd hi.lt (Nat.not_lt.mpr h)
  · exact h j _ hj rfl

theorem Effect.inv {s s' : LockSt} {e : Ev} (h : Effect s e s') (hinv : Inv s) : Inv s' := by
  cases h with
  | same => exact hinv
  | tick d => exact fun i c hc => (hinv i c hc).imp (fun h => Nat.le_add_right_of_le h) id
  | fresh _ i td hpos hpre =>
    -- the tokens of all others have run out
    have hothers : ∀ j c, j ≠ i → s.holder j = some c → c ≤ s.now := by
      intro j c hj hc
      rcases hinv j c hc with h | ⟨rfl, huniq⟩
      · exact h
      · rcases hpre with h | h
        · exact h
        · exact absurd (huniq i _ h rfl).symm hj
    intro j c hc
    rw [holder_install] at hc
    split at hc
    · next hj =>
      cases hc
      refine .inr ⟨rfl, fun k e hk (he : e = s.now + td) => ?_⟩
      rw [holder_install] at hk
      split at hk
      · next hk' => rw [hk', hj]
      · next hki => have := hothers k e hki hk; omega
    · next hj => exact .inl (hothers j c hj hc)
  | drop i tok hh =>
    intro j c hc
    simp only [LockSt.holder, lookup_dropHolder] at hc ⊢
    split at hc
    · cases hc
    · next hj =>
      rcases hinv j c hc with h | ⟨rfl, huniq⟩
      · exact .inl h
      · have hne : s.lease ≠ tok := fun h => hj (huniq i tok hh h.symm).symm
        refine .inr ⟨(if_neg hne).symm, fun k e hk he => ?_⟩
        rw [if_neg hne] at he
        split at hk
        · cases hk
        · exact huniq k e hk he

theorem inv_step (s : LockSt) (e : Ev) (h : Inv s) : Inv (lstep s e).1 :=
  (lstep_effect s e).inv h

theorem inv_init : Inv {} := by
  intro i c hc
  cases hc

theorem inv_lrun (s : LockSt) (es : List Ev) (h : Inv s) : Inv (lrun s es) := by
  induction es generalizing s with
  | nil => exact h
  | cons e es ih => exact ih _ (inv_step s e h)

/-- the invariant holds after EVERY schedule of ticks, lock attempts, renewals and unlocks of any
number of storage instances -/
theorem inv_reachable (es : List Ev) : Inv (lrun {} es) :=
  inv_lrun {} es inv_init

theorem validHolds_unique {s : LockSt} {i j : Nat} (hinv : Inv s) (hi : ValidHolds s i) (hj : ValidHolds s j) :
    i = j :=
  (holder_unique hinv hi hj.holder).symm

/-- **C49 (locks, mutual exclusion).** In every reachable state at most one storage instance validly
holds the lock. -/
theorem holders_exclusive (es : List Ev) (i j : Nat)
    (hi : ValidHolds (lrun {} es) i) (hj : ValidHolds (lrun {} es) j) : i = j :=
  validHolds_unique (inv_reachable es) hi hj

/-- **C49 (locks).** While instance `i` validly holds the lock (acquired, lease unexpired, not unlocked),
a lock attempt of ANY instance is refused with a conflict and changes nothing — `Lock` keeps polling. -/
theorem lock_exclusive (s : LockSt) (i j ttl td : Nat) (hi : ValidHolds s i) (hg : durationGuard ttl = some td) :
    lstep s (.lockTry j ttl) = (s, .conflict) :=
  lstep_lockTry_conflict hg hi.lt

theorem lockTry_refused {s : LockSt} {i : Nat} (j ttl : Nat) (hi : ValidHolds s i) :
    lstep s (.lockTry j ttl) = (s, .conflict) ∨ lstep s (.lockTry j ttl) = (s, .invalidTTL) := by
  cases hg : durationGuard ttl with
  | none => exact .inr (lstep_lockTry_invalid hg)
  | some td => exact .inl (lock_exclusive s i j ttl td hi hg)

/-- … until it is unlocked: `Unlock` by the valid holder frees the lease, and the next attempt succeeds -/
theorem unlock_releases (s : LockSt) (i j ttl td : Nat) (hi : ValidHolds s i) (hg : durationGuard ttl = some td) :
    (lstep s (.unlock i)).2 = .released ∧ (lstep s (.unlock i)).1.lease = 0 ∧
    (lstep (lstep s (.unlock i)).1 (.lockTry j ttl)).2 = .acquired (s.now + td) := by
  rw [lstep_unlock_released hi.holder]
  exact ⟨rfl, rfl, by rw [lstep_lockTry_ok hg (Nat.zero_le _)]⟩

/-- … or its lease expires: once `now` reaches the lease, an attempt succeeds even without unlock -/
theorem expiry_frees (s : LockSt) (j ttl td : Nat) (he : s.lease ≤ s.now) (hg : durationGuard ttl = some td) :
    (lstep s (.lockTry j ttl)).2 = .acquired (s.now + td) := by
  rw [lstep_lockTry_ok hg he]

/-- a stale instance (lease taken over after expiry) cannot disturb the new holder: its unlock does not
free the lease (and its renewal fails: `lstep_renew_expired`) -/
theorem stale_cannot_release (s : LockSt) (i tok : Nat) (hh : s.holder i = some tok) (hne : s.lease ≠ tok) :
    (lstep s (.unlock i)).2 = .expired ∧ (lstep s (.unlock i)).1.lease = s.lease := by
  rw [lstep_unlock_expired hh hne]
  exact ⟨rfl, rfl⟩

/-- an explicit `RenewLockLease(key, dur)` at any moment up to the expiry — whatever `dur` the caller passes —
keeps the lock exactly like a ticker renewal: the lease is pushed to `now + ttl` (the CONFIGURED ttl), and the
token the instance remembers afterwards IS that new lease (so its next renewal and its `Unlock` are accepted) -/
theorem renewLock_keeps (s : LockSt) (i d : Nat) (dur : Int) (ttl td : Nat) (hi : ValidHolds s i) (hd : s.now + d ≤ s.lease)
    (hg : durationGuard ttl = some td) :
    let s1 := (lstep s (.tick d)).1
    let s2 := (lstep s1 (.renewLock i dur ttl)).1
    (lstep s1 (.renewLock i dur ttl)).2 = .renewed (s.now + d + td) ∧ ValidHolds s2 i ∧
    s2.holder i = some (s.now + d + td) ∧ s2.lease = s.now + d + td ∧ s2.now = s.now + d := by
  intro s1 s2
  have heq : lstep s1 (.renewLock i dur ttl) = _ :=
    lstep_renew_ok (s := s1) hi.holder hg (Nat.ne_of_gt (Nat.zero_lt_of_lt hi.lt)) hd
  have h2 : s2 = _ := congrArg Prod.fst heq
  rw [heq, h2]
  exact ⟨rfl, validHolds_install s1 i (durationGuard_pos hg), (holder_install s1 i td i).trans (if_pos rfl), rfl, rfl⟩

/-- renewal at any moment up to the expiry (the ticker fires every ttl/4) keeps the lock and pushes the
expiry to `now + ttl` -/
theorem renew_keeps (s : LockSt) (i d ttl td : Nat) (hi : ValidHolds s i) (hd : s.now + d ≤ s.lease)
    (hg : durationGuard ttl = some td) :
    let s1 := (lstep s (.tick d)).1
    (lstep s1 (.renew i ttl)).2 = .renewed (s.now + d + td) ∧ ValidHolds (lstep s1 (.renew i ttl)).1 i :=
  -- `.renewLock i dur ttl` steps as `.renew i ttl` does, by `rfl` (`lstep_renewLock`)
  have h := renewLock_keeps s i d 0 ttl td hi hd hg
  ⟨h.1, h.2.1⟩

/-- … and the ticker's next renewal after an explicit one (any time `d2` up to the new expiry) is accepted -/
theorem ticker_after_renewLock (s : LockSt) (i d : Nat) (dur : Int) (ttl td d2 : Nat) (hi : ValidHolds s i)
    (hd : s.now + d ≤ s.lease) (hg : durationGuard ttl = some td) (hd2 : d2 ≤ td) :
    let s2 := (lstep (lstep s (.tick d)).1 (.renewLock i dur ttl)).1
    (lstep (lstep s2 (.tick d2)).1 (.renew i ttl)).2 = .renewed (s.now + d + d2 + td) ∧
    ValidHolds (lstep (lstep s2 (.tick d2)).1 (.renew i ttl)).1 i := by
  intro s2
  obtain ⟨_, hv, _, hle, hno⟩ := renewLock_keeps s i d dur ttl td hi hd hg
  have := renew_keeps s2 i d2 ttl td hv (by rw [hle, hno]; omega) hg
  rw [hno] at this
  exact this

/-- a step that does not take the lock away from a valid holder `i` from outside: not `i`'s own `Unlock`, and no
passage of time up to the expiry of the current lease (i.e. `i`'s renewals keep coming before the expiry) -/
def Harmless (i : Nat) (s : LockSt) : Ev → Prop
  | .tick d => s.now + d < s.lease
  | .unlock j => j ≠ i
  | _ => True

instance (i : Nat) (s : LockSt) (e : Ev) : Decidable (Harmless i s e) := by
  cases e <;> unfold Harmless <;> infer_instance

/-- the whole schedule is harmless for `i`, step by step along the run -/
def KeepsAlive (i : Nat) : LockSt → List Ev → Prop
  | _, [] => True
  | s, e :: es => Harmless i s e ∧ KeepsAlive i (lstep s e).1 es

instance instDecKeepsAlive (i : Nat) : (s : LockSt) → (es : List Ev) → Decidable (KeepsAlive i s es)
  | _, [] => isTrue trivial
  | s, e :: es =>
    have := instDecKeepsAlive i (lstep s e).1 es
    (inferInstance : Decidable (Harmless i s e ∧ KeepsAlive i (lstep s e).1 es))

theorem Effect.validHolds {s s' : LockSt} {e : Ev} {i : Nat} (h : Effect s e s') (hinv : Inv s)
    (hi : ValidHolds s i) (he : Harmless i s e) : ValidHolds s' i := by
  cases h with
  | same => exact hi
  | tick d => exact ⟨_, hi.holder, rfl, he⟩
  | fresh _ j td hpos hpre =>
    -- the lease has not run out, so this is a renewal, and it is `i` that renews
    have hji : j = i := by
      rcases hpre with h | h
      · exact absurd hi.lt (Nat.not_lt.mpr h)
      · exact holder_unique hinv hi h
    exact hji ▸ validHolds_install s j hpos
  | drop j tok hj =>
    -- the token of another instance is not the current lease, which therefore stays
    have hji : j ≠ i := he
    have hne : s.lease ≠ tok := fun h => hji (holder_unique hinv hi (h ▸ hj))
    refine ⟨_, ?_, (if_neg hne).symm, hi.lt⟩
    exact (lookup_dropHolder _ _ _).trans ((if_neg (Ne.symm hji)).trans hi.holder)

/-- **C49 (locks, the statement, one step).** No lock attempt, renewal or unlock of ANY instance other than `i`'s own
unlock, and no passage of time short of the expiry, ends a valid hold of `i`. -/
theorem validHolds_step (s : LockSt) (i : Nat) (e : Ev) (hinv : Inv s) (hi : ValidHolds s i)
    (he : Harmless i s e) : ValidHolds (lstep s e).1 i :=
  (lstep_effect s e).validHolds hinv hi he

/-- **C49 (locks: held until unlocked or expired).** From any state satisfying the invariant (every reachable
one does) in which `i` validly holds the lock, after EVERY schedule of lock attempts, ticker renewals, explicit
`RenewLockLease` calls (any duration argument) and unlocks of ANY instances in which `i` itself does not unlock
and time never reaches the expiry of the lease current at that moment, `i` still validly holds the lock. -/
theorem held_until_unlock_or_expiry (s : LockSt) (i : Nat) (es : List Ev) (hinv : Inv s) (hi : ValidHolds s i)
    (hk : KeepsAlive i s es) : ValidHolds (lrun s es) i ∧ Inv (lrun s es) := by
  induction es generalizing s with
  | nil => exact ⟨hi, hinv⟩
  | cons e es ih => exact ih _ (inv_step s e hinv) (validHolds_step s i e hinv hi hk.1) hk.2

theorem keepsAlive_prefix (i : Nat) (s : LockSt) (es1 es2 : List Ev) (h : KeepsAlive i s (es1 ++ es2)) :
    KeepsAlive i s es1 := by
  induction es1 generalizing s with
  | nil => trivial
  | cons e es ih => exact ⟨h.1, ih _ h.2⟩

/-- **C49 (locks, the statement).** While instance `i` holds the lock and keeps renewing it (ticker or explicit
`RenewLockLease`) — until it unlocks or lets the lease expire — EVERY lock attempt of every instance anywhere in
the schedule is refused and changes nothing. -/
theorem no_other_obtains_while_held (s : LockSt) (i j ttl : Nat) (es1 es2 : List Ev) (hinv : Inv s)
    (hi : ValidHolds s i) (hk : KeepsAlive i s (es1 ++ .lockTry j ttl :: es2)) :
    lstep (lrun s es1) (.lockTry j ttl) = (lrun s es1, .conflict) ∨
    lstep (lrun s es1) (.lockTry j ttl) = (lrun s es1, .invalidTTL) :=
  lockTry_refused j ttl (held_until_unlock_or_expiry s i es1 hinv hi (keepsAlive_prefix i s es1 _ hk)).1

/-- the same from the very beginning: any schedule `es0` whatsoever, then a schedule that keeps `i` alive -/
theorem no_other_obtains_while_held_reachable (es0 es1 es2 : List Ev) (i j ttl td : Nat)
    (hi : ValidHolds (lrun {} es0) i) (hg : durationGuard ttl = some td)
    (hk : KeepsAlive i (lrun {} es0) (es1 ++ .lockTry j ttl :: es2)) :
    (lstep (lrun (lrun {} es0) es1) (.lockTry j ttl)).2 = .conflict := by
  have hv := (held_until_unlock_or_expiry _ i es1 (inv_reachable es0) hi (keepsAlive_prefix i _ es1 _ hk)).1
  rw [lock_exclusive _ i j ttl td hv hg]

/-! ### the renewal goroutine and the context `Lock` was called with (model part 3)

The schedules of this part also contain the end (`ctxDone`) of the contexts the instances called `Lock` with and KV
faults hitting a ticker, and the ticker itself is a goroutine that may or may not be running. -/

theorem mem_stopTicker {ts : List Nat} {i j : Nat} (h : i ∈ ts) (hij : i ≠ j) : i ∈ stopTicker ts j :=
  List.mem_filter.mpr ⟨h, by simpa using hij⟩

theorem mem_startTicker {ts : List Nat} {i : Nat} (j : Nat) (h : i ∈ ts) : i ∈ startTicker ts j := by
  by_cases hij : i = j
  · exact hij ▸ List.mem_cons_self
  · exact List.mem_cons_of_mem _ (mem_stopTicker h hij)

theorem mem_ite {α : Type} {a : α} {c : Prop} [Decidable c] {l l' : List α} (h : a ∈ l) (h' : a ∈ l') :
    a ∈ if c then l else l' := by
  split <;> assumption

/-! likewise for `rstepP` -/
section reqs
variable {p : LeaseParent} {s : RSt} {i ttl d : Nat}

theorem rstepP_tick : rstepP p s (.ev (.tick d)) = ({ s with lock := (lstep s.lock (.tick d)).1 }, .none) := rfl

theorem rstepP_lockTry : rstepP p s (.ev (.lockTry i ttl)) =
    ({ lock := (lstep s.lock (.lockTry i ttl)).1,
       tickers := if (lstep s.lock (.lockTry i ttl)).2.isAcquired then startTicker s.tickers i else s.tickers },
     (lstep s.lock (.lockTry i ttl)).2) := rfl

theorem rstepP_renew_running (h : i ∈ s.tickers) : rstepP p s (.ev (.renew i ttl)) =
    ({ lock := (lstep s.lock (.renew i ttl)).1,
       tickers := if (lstep s.lock (.renew i ttl)).2.isRenewed then s.tickers else stopTicker s.tickers i },
     (lstep s.lock (.renew i ttl)).2) :=
  if_pos h

/-- a goroutine that has ended renews nothing: no KV call, nothing changes -/
theorem rstepP_renew_stopped (h : i ∉ s.tickers) : rstepP p s (.ev (.renew i ttl)) = (s, .none) :=
  if_neg h

theorem rstepP_unlock : rstepP p s (.ev (.unlock i)) =
    ({ lock := (lstep s.lock (.unlock i)).1,
       tickers := if (lstep s.lock (.unlock i)).2 = .notHolder then s.tickers else stopTicker s.tickers i },
     (lstep s.lock (.unlock i)).2) := rfl

theorem rstepP_renewLock (dur : Int) : rstepP p s (.ev (.renewLock i dur ttl)) =
    ({ s with lock := (lstep s.lock (.renewLock i dur ttl)).1 }, (lstep s.lock (.renewLock i dur ttl)).2) := rfl

theorem rstepP_kvFault : rstepP p s (.kvFault i) = ({ s with tickers := stopTicker s.tickers i }, .none) := rfl
end reqs

section
variable (s : RSt) (i : Nat)

/-- **the code**: the end of the context `Lock` was called with reaches nothing — the lease holder's lifetime
context descends from `context.Background()` -/
theorem ctxDone_changes_nothing : rstep s (.ctxDone i) = (s, .none) := rfl

/-- had the lifetime context been derived from the caller's context, its end would stop the renewals -/
theorem ctxDone_acquireCtx : rstepP .acquireCtx s (.ctxDone i) = ({ s with tickers := stopTicker s.tickers i }, .none) := rfl
end

theorem rstepP_lock (p : LeaseParent) (s : RSt) (e : REv) :
    (rstepP p s e).1.lock = s.lock ∨ ∃ e', e = .ev e' ∧ (rstepP p s e).1.lock = (lstep s.lock e').1 := by
  fun_cases rstepP p s e
  -- stopped ticker, KV fault, context end (either parent)
  case case3 | case7 | case8 | case9 => exact .inl rfl
  all_goals exact .inr ⟨_, rfl, rfl⟩

theorem rinv_step (p : LeaseParent) (s : RSt) (e : REv) (h : Inv s.lock) : Inv (rstepP p s e).1.lock := by
  rcases rstepP_lock p s e with h1 | ⟨e', _, h1⟩ <;> rw [h1]
  · exact h
  · exact inv_step _ _ h

theorem rinv_rrunP (p : LeaseParent) (s : RSt) (es : List REv) (h : Inv s.lock) : Inv (rrunP p s es).lock := by
  induction es generalizing s with
  | nil => exact h
  | cons e es ih => exact ih _ (rinv_step p s e h)

/-- the lease invariant survives every extended schedule, whatever the lifetime context descends from -/
theorem rinv_reachable (p : LeaseParent) (es : List REv) : Inv (rrunP p {} es).lock :=
  rinv_rrunP p {} es inv_init

/-- **C49 (locks, mutual exclusion) over the extended schedules**: contexts ending, tickers stopping, KV faults —
at most one instance validly holds the lock. (This part does not depend on the lifetime context's parent: what
depends on it is how long a holder KEEPS the lock, below.) -/
theorem r_holders_exclusive (p : LeaseParent) (es : List REv) (i j : Nat)
    (hi : ValidHolds (rrunP p {} es).lock i) (hj : ValidHolds (rrunP p {} es).lock j) : i = j :=
  validHolds_unique (rinv_reachable p es) hi hj

/-- a step that neither unlocks `i` nor lets its lease run out nor breaks its ticker from outside. The end of the
context `i` (or anybody) called `Lock` with is NOT among the things that must not happen. -/
def RHarmless (i : Nat) (s : RSt) : REv → Prop
  | .ev (.tick d) => s.lock.now + d < s.lock.lease
  | .ev (.unlock j) => j ≠ i
  | .ev (.renew j ttl) => j = i → (durationGuard ttl).isSome    -- `i` renews with its configured TTL (≥ 1 s: it acquired with it)
  | .ev (.lockTry _ _) => True
  | .ev (.renewLock _ _ _) => True
  | .kvFault j => j ≠ i
  | .ctxDone _ => True

instance (i : Nat) (s : RSt) (e : REv) : Decidable (RHarmless i s e) := by
  cases e with
  | ev e' => cases e' <;> unfold RHarmless <;> infer_instance
  | kvFault j => unfold RHarmless; infer_instance
  | ctxDone j => unfold RHarmless; infer_instance

theorem harmless_of_rharmless {i : Nat} {s : RSt} {e : Ev} (h : RHarmless i s (.ev e)) : Harmless i s.lock e := by
  cases e with
  | tick d => exact h
  | unlock j => exact h
  | _ => trivial

def RKeepsAlive (i : Nat) : RSt → List REv → Prop
  | _, [] => True
  | s, e :: es => RHarmless i s e ∧ RKeepsAlive i (rstep s e).1 es

instance instDecRKeepsAlive (i : Nat) : (s : RSt) → (es : List REv) → Decidable (RKeepsAlive i s es)
  | _, [] => isTrue trivial
  | s, e :: es =>
    have := instDecRKeepsAlive i (rstep s e).1 es
    (inferInstance : Decidable (RHarmless i s e ∧ RKeepsAlive i (rstep s e).1 es))

theorem rstepP_renew_valid {p : LeaseParent} {s : RSt} {i ttl td : Nat} (hv : ValidHolds s.lock i)
    (ht : i ∈ s.tickers) (hg : durationGuard ttl = some td) :
    rstepP p s (.ev (.renew i ttl)) = ({ s with lock := install s.lock i td }, .renewed (s.lock.now + td)) := by
  rw [rstepP_renew_running ht,
    lstep_renew_ok hv.holder hg (Nat.ne_of_gt (Nat.zero_lt_of_lt hv.lt)) (Nat.le_of_lt hv.lt)]
  rfl

/-- one harmless step: the holder stays a valid holder AND its renewal goroutine keeps running -/
theorem holder_step (s : RSt) (i : Nat) (e : REv) (hinv : Inv s.lock) (hv : ValidHolds s.lock i)
    (ht : i ∈ s.tickers) (he : RHarmless i s e) :
    ValidHolds (rstep s e).1.lock i ∧ i ∈ (rstep s e).1.tickers := by
  unfold rstep
  constructor
  · rcases rstepP_lock leaseParent s e with h1 | ⟨e', rfl, h1⟩ <;> rw [h1]
    · exact hv
    · exact validHolds_step s.lock i e' hinv hv (harmless_of_rharmless he)
  · cases e with
    | ev e' =>
      cases e' with
      | tick d => exact ht
      | lockTry j ttl => exact mem_ite (mem_startTicker j ht) ht
      | renew j ttl =>
        by_cases hj : j ∈ s.tickers
        · by_cases hji : j = i
          · subst hji
            obtain ⟨td, hg⟩ := Option.isSome_iff_exists.mp (he rfl)
            rw [rstepP_renew_valid hv ht hg]
            exact ht
          · rw [rstepP_renew_running hj]
            exact mem_ite ht (mem_stopTicker ht (Ne.symm hji))
        · rw [rstepP_renew_stopped hj]; exact ht
      | renewLock j dur ttl => exact ht
      | unlock j => exact mem_ite ht (mem_stopTicker ht (Ne.symm he))
    | kvFault j => exact mem_stopTicker ht (Ne.symm he)
    | ctxDone j => exact ht

/-- **C49 (locks: held until unlocked or expired, with the goroutine).** From any state in which `i` validly holds
the lock and its renewal goroutine runs, after EVERY schedule — lock attempts, ticker periods, explicit renewals and
unlocks of any instances, KV faults hitting other instances' tickers, and the END OF ANY CONTEXT `Lock` WAS CALLED
WITH, `i`'s own included — in which `i` does not unlock and time does not reach the expiry of the then-current lease,
`i` still validly holds the lock and its goroutine still runs. -/
theorem held_with_ticker (s : RSt) (i : Nat) (es : List REv) (hinv : Inv s.lock) (hv : ValidHolds s.lock i)
    (ht : i ∈ s.tickers) (hk : RKeepsAlive i s es) :
    ValidHolds (rrun s es).lock i ∧ i ∈ (rrun s es).tickers ∧ Inv (rrun s es).lock := by
  induction es generalizing s with
  | nil => exact ⟨hv, ht, hinv⟩
  | cons e es ih =>
    have h := holder_step s i e hinv hv ht hk.1
    exact ih (rstep s e).1 (rinv_step leaseParent s e hinv) h.1 h.2 hk.2

theorem rkeepsAlive_prefix (i : Nat) (s : RSt) (es1 es2 : List REv) (h : RKeepsAlive i s (es1 ++ es2)) :
    RKeepsAlive i s es1 := by
  induction es1 generalizing s with
  | nil => trivial
  | cons e es ih => exact ⟨h.1, ih _ h.2⟩

theorem r_lockTry_refused {s : RSt} {i : Nat} (j ttl : Nat) (hv : ValidHolds s.lock i) :
    rstep s (.ev (.lockTry j ttl)) = (s, .conflict) ∨ rstep s (.ev (.lockTry j ttl)) = (s, .invalidTTL) := by
  unfold rstep
  rw [rstepP_lockTry]
  rcases lockTry_refused j ttl hv with h | h <;> rw [h]
  · exact .inl rfl
  · exact .inr rfl

/-- **C49 (locks, the statement, over the extended schedules).** While `i` holds the lock — whatever became of
the context it acquired it with — every lock attempt of every instance is refused and changes nothing. -/
theorem r_no_other_obtains_while_held (s : RSt) (i j ttl : Nat) (es1 es2 : List REv) (hinv : Inv s.lock)
    (hv : ValidHolds s.lock i) (ht : i ∈ s.tickers) (hk : RKeepsAlive i s (es1 ++ .ev (.lockTry j ttl) :: es2)) :
    rstep (rrun s es1) (.ev (.lockTry j ttl)) = (rrun s es1, .conflict) ∨
    rstep (rrun s es1) (.ev (.lockTry j ttl)) = (rrun s es1, .invalidTTL) :=
  r_lockTry_refused j ttl (held_with_ticker s i es1 hinv hv ht (rkeepsAlive_prefix i s es1 _ hk)).1

def REv.isCtxDone : REv → Bool
  | .ctxDone _ => true
  | _ => false

/-- the lock behaviour does not depend on the lifetime of the acquiring contexts at all: deleting every `ctxDone`
from a schedule gives the same state -/
theorem acquire_ctx_irrelevant (s : RSt) (es : List REv) :
    rrun s es = rrun s (es.filter (fun e => !e.isCtxDone)) := by
  induction es generalizing s with
  | nil => rfl
  | cons e es ih =>
    cases e with
    | ctxDone i => exact ih s  -- changes nothing and is dropped by the filter
    | ev e' => exact ih _
    | kvFault i => exact ih _

/-! the ticker discharges the "time does not reach the expiry" hypothesis: rounds of a live holder. In each round
some time `d` shorter than the lease passes, then any number of contexts end and contenders try to lock, then
`i`'s ticker period elapses. -/

/-- events that happen "in between": contexts ending (anybody's), lock attempts (anybody's) -/
def Quiet : REv → Prop
  | .ctxDone _ => True
  | .ev (.lockTry _ _) => True
  | _ => False

instance : DecidablePred Quiet := fun e => by
  cases e with
  | ev e' => cases e' <;> unfold Quiet <;> infer_instance
  | kvFault j => unfold Quiet; infer_instance
  | ctxDone j => unfold Quiet; infer_instance

def tickerRounds (i ttl : Nat) : List (Nat × List REv) → List REv
  | [] => []
  | (d, cs) :: rs => .ev (.tick d) :: (cs ++ .ev (.renew i ttl) :: tickerRounds i ttl rs)

theorem quiet_step (s : RSt) (i : Nat) (e : REv) (hv : ValidHolds s.lock i) (hq : Quiet e) :
    (rstep s e).1 = s ∧ RHarmless i s e := by
  revert hq
  fun_cases Quiet e
  case case1 => exact fun _ => ⟨rfl, trivial⟩
  case case2 j ttl =>
    intro _
    rcases r_lockTry_refused j ttl hv with h | h <;> exact ⟨by rw [h], trivial⟩
  case case3 => exact False.elim

theorem rkeepsAlive_quiet_append (s : RSt) (i : Nat) (cs rest : List REv) (hv : ValidHolds s.lock i)
    (hq : ∀ e ∈ cs, Quiet e) (hr : RKeepsAlive i s rest) : RKeepsAlive i s (cs ++ rest) := by
  induction cs with
  | nil => exact hr
  | cons e cs ih =>
    obtain ⟨hqe, hq⟩ := List.forall_mem_cons.mp hq
    obtain ⟨hs, hh⟩ := quiet_step s i e hv hqe
    refine ⟨hh, ?_⟩
    rw [hs]
    exact ih hq

/-- the ticker's renewal of a valid holder whose goroutine runs: accepted, the goroutine goes on, a full TTL again -/
theorem renew_running_valid (s1 : RSt) (i ttl td : Nat) (hg : durationGuard ttl = some td) (hinv1 : Inv s1.lock)
    (hv1 : ValidHolds s1.lock i) (ht1 : i ∈ s1.tickers) :
    ValidHolds (rstep s1 (.ev (.renew i ttl))).1.lock i ∧ i ∈ (rstep s1 (.ev (.renew i ttl))).1.tickers ∧
    Inv (rstep s1 (.ev (.renew i ttl))).1.lock ∧
    (rstep s1 (.ev (.renew i ttl))).1.lock.now = s1.lock.now ∧
    (rstep s1 (.ev (.renew i ttl))).1.lock.lease = s1.lock.now + td ∧
    (rstep s1 (.ev (.renew i ttl))).2 = .renewed (s1.lock.now + td) := by
  unfold rstep
  have hinv := rinv_step leaseParent s1 (.ev (.renew i ttl)) hinv1
  rw [rstepP_renew_valid hv1 ht1 hg] at hinv ⊢
  exact ⟨validHolds_install _ i (durationGuard_pos hg), ht1, hinv, rfl, rfl, rfl⟩

/-- **a live holder keeps the lock by its ticker alone.** `i` validly holds a lease that still has a full period
to go (`now + td ≤ lease`: true right after `Lock` and after every renewal) and its goroutine runs. Then every
schedule of rounds "less than a lease of time passes; contexts end — `i`'s acquiring context too —, contenders try;
the ticker period elapses" keeps `i` alive: all hypotheses of `held_with_ticker` / `r_no_other_obtains_while_held`
hold, with no assumption about the lease left other than the ticker's period being shorter than the TTL. -/
theorem ticker_rounds_keepAlive (i ttl td : Nat) (hg : durationGuard ttl = some td) (rs : List (Nat × List REv))
    (hd : ∀ r ∈ rs, r.1 < td) (hq : ∀ r ∈ rs, ∀ e ∈ r.2, Quiet e)
    (s : RSt) (hinv : Inv s.lock) (hv : ValidHolds s.lock i) (ht : i ∈ s.tickers)
    (hfresh : s.lock.now + td ≤ s.lock.lease) :
    RKeepsAlive i s (tickerRounds i ttl rs) := by
  induction rs generalizing s with
  | nil => trivial
  | cons r rs ih =>
    obtain ⟨d, cs⟩ := r
    obtain ⟨hdr, hd⟩ := List.forall_mem_cons.mp hd
    obtain ⟨hqr, hq⟩ := List.forall_mem_cons.mp hq
    -- time passes
    have hT : RHarmless i s (.ev (.tick d)) := by show s.lock.now + d < s.lock.lease; omega
    obtain ⟨hv1, ht1⟩ := holder_step s i _ hinv hv ht hT
    refine ⟨hT, ?_⟩
    -- quiet events, then the ticker
    refine rkeepsAlive_quiet_append _ i cs _ hv1 hqr ⟨fun _ => by rw [hg]; rfl, ?_⟩
    obtain ⟨hv2, ht2, hinv2, hn2, hl2, _⟩ :=
      renew_running_valid (rstep s (.ev (.tick d))).1 i ttl td hg (rinv_step leaseParent s _ hinv) hv1 ht1
    exact ih hd hq _ hinv2 hv2 ht2 (by rw [hn2, hl2]; exact Nat.le_refl _)

/-- … hence in such a run every lock attempt, wherever it falls, is refused -/
theorem ticker_rounds_exclude (i ttl td : Nat) (hg : durationGuard ttl = some td) (rs : List (Nat × List REv))
    (hd : ∀ r ∈ rs, r.1 < td) (hq : ∀ r ∈ rs, ∀ e ∈ r.2, Quiet e)
    (s : RSt) (hinv : Inv s.lock) (hv : ValidHolds s.lock i) (ht : i ∈ s.tickers)
    (hfresh : s.lock.now + td ≤ s.lock.lease)
    (es1 es2 : List REv) (j ttl' : Nat) (hsplit : tickerRounds i ttl rs = es1 ++ .ev (.lockTry j ttl') :: es2) :
    rstep (rrun s es1) (.ev (.lockTry j ttl')) = (rrun s es1, .conflict) ∨
    rstep (rrun s es1) (.ev (.lockTry j ttl')) = (rrun s es1, .invalidTTL) :=
  r_no_other_obtains_while_held s i j ttl' es1 es2 hinv hv ht
    (hsplit ▸ ticker_rounds_keepAlive i ttl td hg rs hd hq s hinv hv ht hfresh)

/-! ### a renewal that is answered late (model part 4)

`renewLease` gives each renewal `context.Background()`: a request that needs `lat` to reach the KV is waited for. -/

/-- as coded, a slow renewal of a running goroutine is "time `lat` passes, then the ticker's renewal": it lies within
the schedules of `held_with_ticker` / `r_no_other_obtains_while_held` -/
theorem slowRenew_eq (s : RSt) (i ttl lat : Nat) (ht : i ∈ s.tickers) :
    slowRenew s i ttl lat = rstep (rrun s [.ev (.tick lat)]) (.ev (.renew i ttl)) :=
  if_pos ht

/-- **C49 (locks: a slow renewal is not a lost lock).** `i` validly holds the lock, its goroutine runs, and the
renewal request it makes now needs `lat` to reach the KV, less than what is left of the lease — however `lat`
compares with the ticker period. Then the renewal is accepted when it arrives: `i` still validly holds, the goroutine
still runs, and the lease is a full TTL long again (`now + td ≤ lease`, the starting condition of
`ticker_rounds_keepAlive`). -/
theorem slow_renewal_keeps (s : RSt) (i ttl td lat : Nat) (hg : durationGuard ttl = some td) (hinv : Inv s.lock)
    (hv : ValidHolds s.lock i) (ht : i ∈ s.tickers) (hl : s.lock.now + lat < s.lock.lease) :
    ValidHolds (slowRenew s i ttl lat).1.lock i ∧ i ∈ (slowRenew s i ttl lat).1.tickers ∧
    Inv (slowRenew s i ttl lat).1.lock ∧
    (slowRenew s i ttl lat).1.lock.now = s.lock.now + lat ∧
    (slowRenew s i ttl lat).1.lock.lease = s.lock.now + lat + td ∧
    (slowRenew s i ttl lat).2 = .renewed (s.lock.now + lat + td) := by
  rw [slowRenew_eq s i ttl lat ht]
  obtain ⟨hv1, ht1, hinv1⟩ := held_with_ticker s i [.ev (.tick lat)] hinv hv ht ⟨hl, trivial⟩
  exact renew_running_valid _ i ttl td hg hinv1 hv1 ht1

/-- … and while the request is under way (any time `d ≤ lat` after it was made) every lock attempt of every
instance is refused and changes nothing -/
theorem slow_renewal_excludes (s : RSt) (i j ttl' d lat : Nat) (hinv : Inv s.lock) (hv : ValidHolds s.lock i)
    (ht : i ∈ s.tickers) (hl : s.lock.now + lat < s.lock.lease) (hd : d ≤ lat) :
    rstep (rrun s [.ev (.tick d)]) (.ev (.lockTry j ttl')) = (rrun s [.ev (.tick d)], .conflict) ∨
    rstep (rrun s [.ev (.tick d)]) (.ev (.lockTry j ttl')) = (rrun s [.ev (.tick d)], .invalidTTL) := by
  refine r_no_other_obtains_while_held s i j ttl' [.ev (.tick d)] [] hinv hv ht ⟨?_, trivial, trivial⟩
  show s.lock.now + d < s.lock.lease
  omega

/-- … and afterwards the ticker alone keeps the holder alive again: every schedule of ticker rounds after a slow
renewal satisfies the hypotheses of `held_with_ticker` -/
theorem slow_renewal_then_rounds (s : RSt) (i ttl td lat : Nat) (hg : durationGuard ttl = some td) (hinv : Inv s.lock)
    (hv : ValidHolds s.lock i) (ht : i ∈ s.tickers) (hl : s.lock.now + lat < s.lock.lease)
    (rs : List (Nat × List REv)) (hd : ∀ r ∈ rs, r.1 < td) (hq : ∀ r ∈ rs, ∀ e ∈ r.2, Quiet e) :
    RKeepsAlive i (slowRenew s i ttl lat).1 (tickerRounds i ttl rs) := by
  obtain ⟨h1, h2, h3, h4, h5, _⟩ := slow_renewal_keeps s i ttl td lat hg hinv hv ht hl
  exact ticker_rounds_keepAlive i ttl td hg rs hd hq _ h3 h1 h2 (by rw [h4, h5]; exact Nat.le_refl _)

/-! ## non-vacuity -/

-- listing a/b among the keys a/b, a/b/x, a/b/y/z, a/bc/q: the key itself and the sibling a/bc/q, which only
-- shares the string prefix, are not children
example : listNonRec (["a/b", "a/b/x", "a/b/y/z", "a/bc/q"].map (fun s => kvKeyName s.toList)) "a/b".toList
    = ["a/b/x".toList, "a/b/y".toList] := by decide +kernel
example : IsChild (["a/b/y/z"].map (fun s => kvKeyName s.toList)) "a/b".toList "a/b/y".toList :=
  ⟨"y".toList, by decide +kernel, by decide +kernel, _, List.mem_cons_self, .inr ⟨"z".toList, by decide +kernel⟩⟩
example : lastWrite [] [.delete "k".toList, .store "k".toList [1], .store "j".toList [2]] "j".toList = some [2] := by decide +kernel
-- A acquires at t=0 for 2 s, renews at 0.5 s; B is refused at 1 s and at 2.4 s; A unlocks; B acquires
example :
    let s := lrun {} [.lockTry 1 (2*second), .tick (second/2), .renew 1 (2*second), .tick (second/2)]
    ValidHolds s 1 ∧ (lstep s (.lockTry 2 (2*second))).2 = .conflict ∧
    (lstep (lrun s [.tick (second*14/10)]) (.lockTry 2 (2*second))).2 = .conflict ∧
    (lstep (lrun s [.unlock 1]) (.lockTry 2 (2*second))).2 = .acquired (3*second) := by
  decide +kernel
-- A (ttl 2 s) locks; 0.3 s later it calls RenewLockLease with a 7 s duration argument (ignored: the lease
-- becomes now+2 s and A remembers exactly that token); the ticker renews 0.5 s later with it; B is refused
-- 1.9 s after that, i.e. 2.7 s after the Lock and long after the first two leases would have run out
example :
    let s := lrun {} [.lockTry 1 (2*second)]
    let es := [Ev.tick (3*second/10), .renewLock 1 (7*second) (2*second), .tick (second/2), .renew 1 (2*second),
               .tick (19*second/10)]
    ValidHolds s 1 ∧ Inv s ∧ KeepsAlive 1 s (es ++ [.lockTry 2 (2*second)]) ∧
    (lstep (lrun s es) (.lockTry 2 (2*second))).2 = .conflict ∧
    (lrun s es).holder 1 = some (28*second/10) := by
  exact ⟨by decide +kernel, inv_reachable _, by decide +kernel⟩
-- the hypotheses of `held_until_unlock_or_expiry` are needed: without renewals the same contender succeeds
example :
    let s := lrun {} [.lockTry 1 (2*second)]
    ¬ KeepsAlive 1 s [.tick (27*second/10)] ∧
    (lstep (lrun s [.tick (27*second/10)]) (.lockTry 2 (2*second))).2 = .acquired (47*second/10) := by
  decide +kernel
-- a stale instance (2, lease taken over by 1 after expiry) renewing / unlocking is harmless for holder 1
example :
    let s := lrun {} [.lockTry 2 (second), .tick (second), .lockTry 1 (2*second)]
    ValidHolds s 1 ∧ KeepsAlive 1 s [.renew 2 second, .renewLock 2 (-1) second, .unlock 2, .tick second, .lockTry 2 second] ∧
    ValidHolds (lrun s [.renew 2 second, .renewLock 2 (-1) second, .unlock 2, .tick second]) 1 := by
  decide +kernel
example : durationGuard (2*second) = some (2*second) := by decide +kernel

-- part 3. A (ttl 1 s) locks with a request-scoped context that ends 0.1 s later; its ticker fires every 0.25 s;
-- B tries at 0.6 s, 1.1 s (after the FIRST lease would have run out) and 1.6 s: refused each time; A still holds
-- and its goroutine still runs after 1.85 s. The schedule is an instance of `tickerRounds`.
def demoRounds : List (Nat × List REv) :=
  [(second/10, [.ctxDone 1]), (second/4, []), (second/4, [.ev (.lockTry 2 second)]), (second/4, []),
   (second/4, [.ev (.lockTry 2 second), .ctxDone 2]), (second/4, []), (second/4, [.ev (.lockTry 2 second)]), (second/4, [])]

example :
    let s := rrun {} [.ev (.lockTry 1 second)]
    ValidHolds s.lock 1 ∧ 1 ∈ s.tickers ∧ s.lock.now + second ≤ s.lock.lease ∧
    (∀ r ∈ demoRounds, r.1 < second) ∧ (∀ r ∈ demoRounds, ∀ e ∈ r.2, Quiet e) ∧
    RKeepsAlive 1 s (tickerRounds 1 second demoRounds) ∧
    ValidHolds (rrun s (tickerRounds 1 second demoRounds)).lock 1 ∧ 1 ∈ (rrun s (tickerRounds 1 second demoRounds)).tickers := by
  decide +kernel
-- SENSITIVITY: what the property needs from `startLeaseRenewal`. The same schedule under a lifetime context derived
-- from the caller's context: the goroutine ends with the acquiring context, the lease lapses, and B's attempt at
-- 1.1 s SUCCEEDS although A never unlocked and no KV call failed; under the code's `context.Background()` it is refused
def demoPrefix : List REv :=
  [.ev (.lockTry 1 second), .ev (.tick (second/10)), .ctxDone 1, .ev (.renew 1 second), .ev (.tick (second/4)),
   .ev (.renew 1 second), .ev (.tick (second/4)), .ev (.renew 1 second), .ev (.tick (second/4)), .ev (.renew 1 second),
   .ev (.tick (second/4))]
example :
    (rstepP .acquireCtx (rrunP .acquireCtx {} demoPrefix) (.ev (.lockTry 2 second))).2 = .acquired 2100000000 ∧
    (1 ∉ (rrunP .acquireCtx {} demoPrefix).tickers) ∧
    (rrunP .acquireCtx {} demoPrefix).lock.holder 1 = some 1000000000 ∧     -- A still believes it holds the lock
    (rstep (rrun {} demoPrefix) (.ev (.lockTry 2 second))).2 = .conflict ∧
    1 ∈ (rrun {} demoPrefix).tickers := by
  decide +kernel
-- a ticker stops for good after ONE failed renewal (injected KV fault), and only an `Unlock` + `Lock` restarts it
example :
    let s := rrun {} [.ev (.lockTry 1 second), .kvFault 1, .ev (.tick (second/4)), .ev (.renew 1 second)]
    1 ∉ s.tickers ∧ s.lock.lease = second ∧ s.lock.holder 1 = some second := by decide +kernel
example : rrun {} demoPrefix = rrun {} (demoPrefix.filter (fun e => !e.isCtxDone)) ∧ (demoPrefix.filter (fun e => !e.isCtxDone)).length + 1 = demoPrefix.length :=
  ⟨acquire_ctx_irrelevant {} demoPrefix, by decide +kernel⟩

-- part 4. A (ttl 2 s) locks at 0, renews at 0.5 s, and the request its ticker makes at 1 s — 1.5 s of lease left —
-- needs 0.9 s to reach the KV (longer than the ticker period of 0.5 s). The hypotheses of `slow_renewal_keeps` hold:
def demoSlow : RSt :=
  rrun {} [.ev (.lockTry 1 (2*second)), .ev (.tick (second/2)), .ev (.renew 1 (2*second)), .ev (.tick (second/2))]
example :
    Inv demoSlow.lock ∧ ValidHolds demoSlow.lock 1 ∧ 1 ∈ demoSlow.tickers ∧
    demoSlow.lock.now + 9*second/10 < demoSlow.lock.lease ∧ durationGuard (2*second) = some (2*second) :=
  ⟨rinv_reachable leaseParent _, by decide +kernel⟩
-- as coded the renewal is awaited: A holds until 3.9 s and B, trying 3 s after A's Lock, is refused.
-- SENSITIVITY: what the property needs from `renewLease`. With a deadline of one ticker period per attempt the same
-- request is abandoned after 0.5 s, the goroutine returns, A still believes it holds the lock (token 2.5 s), and B's
-- attempt at 3 s SUCCEEDS although A never unlocked and the KV failed nothing
example :
    let a := (slowRenew demoSlow 1 (2*second) (9*second/10)).1
    let b := (slowRenewP (.perAttempt (second/2)) demoSlow 1 (2*second) (9*second/10)).1
    1 ∈ a.tickers ∧ a.lock.lease = 39*second/10 ∧
    (rstep (rrun a [.ev (.tick (11*second/10))]) (.ev (.lockTry 2 (2*second)))).2 = .conflict ∧
    1 ∉ b.tickers ∧ b.lock.holder 1 = some (25*second/10) ∧
    (rstep (rrun b [.ev (.tick (15*second/10))]) (.ev (.lockTry 2 (2*second)))).2 = .acquired (5*second) := by
  decide +kernel
-- a per-attempt deadline that the latency stays below changes nothing
example : slowRenewP (.perAttempt second) demoSlow 1 (2*second) (9*second/10) = slowRenew demoSlow 1 (2*second) (9*second/10) := rfl

end Specter.C49
