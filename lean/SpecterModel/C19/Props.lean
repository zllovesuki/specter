import SpecterModel.C16.Props
import SpecterModel.C19.Gen
/-!
# C19 — leases are exclusive and tokens are honoured only while current

The lease of a key is a timed cell (`Nat`, 0 = free, otherwise the expiry instant in ns = the token)
with explicit `now`; `acquireCell / renewCell b / releaseCell b` (in `SpecterModel/C16/Model.lean`)
are the comparisons of kv/memory/lease.go and kv/sqlite3/lease.go + queries.go (aof delegates to
memory), `Specter.Kv.step` applies them to the lease of one key. Tie: `harness/cmd/c19` (real stores,
wall clock bracket per call) and the regenerated `Gen.C19` (`durationGuard` of both packages is
TRANSLATED and proved equal to `ttlGuard`; the guard conditions of Acquire/Renew/Release and the SQL
text are pinned: `lease_guards_expected`, `sql_expected`).

One theorem per clause of the statement (the docstrings say which); the acquire and renew halves are read
off `timedCell`, the shape the two share. The two boundary choices where memory and sqlite differ (renew exactly at `now = token`; `Release(0)`
on a free lease) are visible in `renew_iff` / `release_iff` through `Backend.policy`.
-/
namespace Specter.Kv

/-! ## T tie: the Go `durationGuard` of both packages is `ttlGuard` -/

def guardPair (ttl : Int) : Int × Bool :=
  match ttlGuard ttl with
  | none => (0, false)
  | some d => ((d : Int), true)

/-- the model's guard in the shape of the Go text; each package's translation is compared with this on its own, so a
change to one package breaks only that package's theorem -/
theorem guardPair_eq (t : Int) :
    guardPair t = if t - t.tmod 1000000000 < 1000000000 then (0, false) else (t - t.tmod 1000000000, true) := by
  unfold guardPair ttlGuard second
  by_cases c : t - t.tmod 1000000000 < 1000000000
  · simp [c]
  · simp [c, Int.toNat_of_nonneg (Int.le_trans (by decide) (Int.not_lt.mp c))]

theorem memory_durationGuard_eq (t : Int) : Gen.C19.memory_durationGuard t = guardPair t := by
  rw [guardPair_eq]
  simp [Gen.C19.memory_durationGuard, Gen.C19.goTruncate]

theorem sqlite_durationGuard_eq (t : Int) : Gen.C19.sqlite3_durationGuard t = guardPair t := by
  rw [guardPair_eq]
  simp [Gen.C19.sqlite3_durationGuard, Gen.C19.goTruncate]

/-- F tie: the guard conditions the cell functions model, in source order -/
theorem lease_guards_expected :
    Gen.C19.memory_leaseGuards = [
      "Acquire: !ok",
      "Acquire: curr > uint64(ref.UnixNano())",
      "Acquire: !v.lease.CompareAndSwap(curr, next)",
      "Renew: !ok",
      "Renew: curr == 0",
      "Renew: time.Now().UnixNano() > int64(curr)",
      "Renew: curr != prevToken",
      "Renew: !v.lease.CompareAndSwap(curr, next)",
      "Release: !v.lease.CompareAndSwap(token, 0)"] ∧
    Gen.C19.sqlite3_leaseGuards = [
      "Acquire: !ok",
      "Acquire: err != nil",
      "Acquire: err != nil",
      "Acquire: n == 0",
      "Acquire: err != nil",
      "Renew: !ok",
      "Renew: err != nil",
      "Renew: err != nil",
      "Renew: n == 0",
      "Renew: err != nil",
      "Renew: readErr != nil",
      "Renew: scanInt64AsUint64(curToken) != next",
      "Release: err != nil",
      "Release: err != nil",
      "Release: n == 0"] := ⟨rfl, rfl⟩

theorem ttlGuard_none_iff (ttl : Int) : ttlGuard ttl = none ↔ ttl < second := by
  rw [ttlGuard_eq_grant]
  fun_cases Spec.grant ttl
  · exact iff_of_true rfl ‹_›
  · exact iff_of_false nofun ‹_›

theorem floor_toNat {s ttl : Int} {d : Nat} (hs : 0 < s) (h : s ≤ ttl) (hd : (ttl / s * s).toNat = d) :
    d % s.toNat = 0 ∧ s.toNat ≤ d ∧ (d : Int) ≤ ttl ∧ ttl < d + s := by
  have ⟨h1, h2, h3⟩ := floor_bounds hs h
  have hs' := Int.le_of_lt hs
  subst hd
  refine ⟨?_, Int.toNat_le_toNat h1, ?_⟩
  · rw [Int.toNat_mul (Int.ediv_nonneg (Int.le_trans hs' h) hs') hs']
    exact Nat.mul_mod_left _ _
  · rw [Int.toNat_of_nonneg (Int.le_trans hs' h1)]
    exact ⟨h2, h3⟩

/-- the granted duration is the TTL rounded down to whole seconds, at least one -/
theorem ttl_truncated_to_seconds (ttl : Int) (d : Nat) (h : ttlGuard ttl = some d) :
    d % 1000000000 = 0 ∧ 1000000000 ≤ d ∧ (d : Int) ≤ ttl ∧ ttl < d + 1000000000 := by
  rw [ttlGuard_eq_grant] at h
  revert h
  fun_cases Spec.grant ttl
  · nofun
  · exact fun h => floor_toNat (s := second) (by decide) (Int.not_lt.mp ‹_›) (Option.some.inj h)

/-! ## what holds of `Acquire` and `Renew` alike (`timedCell`) -/

def Out.refused : Out → Prop
  | .leaseConflict | .leaseExpired | .invalidTTL => True
  | _ => False

section timedCell
variable {g : Option Nat} {ok : Prop} [Decidable ok] {cur now : Nat} (err : Out)

/-! each proof runs through the three branches of `timedCell`: invalid TTL, granted, refused -/

theorem timedCell_token_iff (herr : ∀ t, err ≠ .token t) (t : Nat) :
    (timedCell g ok cur now err).2 = .token t ↔ ∃ d, g = some d ∧ ok ∧ t = now + d := by
  fun_cases timedCell g ok cur now err
  · simp
  · simp [*, eq_comm]
  · simp [*]

theorem timedCell_granted (herr : ∀ t, err ≠ .token t) (t : Nat)
    (h : (timedCell g ok cur now err).2 = .token t) : (timedCell g ok cur now err).1 = t := by
  revert h
  fun_cases timedCell g ok cur now err
  · nofun
  · exact Out.token.inj
  · exact fun h => absurd h (herr t)

theorem timedCell_refused (h : ∀ t, (timedCell g ok cur now err).2 ≠ .token t) :
    (timedCell g ok cur now err).1 = cur ∧
      ((timedCell g ok cur now err).2 = err ∨ (timedCell g ok cur now err).2 = .invalidTTL) := by
  revert h
  fun_cases timedCell g ok cur now err
  · exact fun _ => ⟨rfl, Or.inr rfl⟩
  · exact fun h => absurd rfl (h _)
  · exact fun _ => ⟨rfl, Or.inl rfl⟩

theorem timedCell_valid (hg : g ≠ none) (herr : err ≠ .invalidTTL) :
    (timedCell g ok cur now err).2 ≠ .invalidTTL := by
  revert hg
  fun_cases timedCell g ok cur now err
  · exact fun hg => absurd rfl hg
  · exact fun _ => nofun
  · exact fun _ => herr

theorem timedCell_of_not (hok : ¬ ok) (herr : err.refused) :
    (timedCell g ok cur now err).1 = cur ∧ (timedCell g ok cur now err).2.refused := by
  fun_cases timedCell g ok cur now err
  · exact ⟨rfl, trivial⟩
  · exact absurd ‹ok› hok
  · exact ⟨rfl, herr⟩

end timedCell

/-- TTL below one second: rejected with ErrKVLeaseInvalidTTL, nothing changes (acquire and renew) -/
theorem ttl_guard (b : Backend) (cur prev now : Nat) (ttl : Int) (h : ttl < second) :
    acquireCell cur now ttl = (cur, .invalidTTL) ∧ renewCell b cur prev now ttl = (cur, .invalidTTL) := by
  rw [acquireCell_timed, renewCell_timed, (ttlGuard_none_iff ttl).mpr h]
  exact ⟨rfl, rfl⟩

/-- **acquire** succeeds iff the TTL is valid and the lease is free or its grant has expired;
then the token is the new expiry `now + ⌊ttl⌋`, and the cell holds it. -/
theorem acquire_iff (cur now : Nat) (ttl : Int) (t : Nat) :
    (acquireCell cur now ttl).2 = .token t ↔
      (∃ d, ttlGuard ttl = some d ∧ (cur = 0 ∨ cur ≤ now) ∧ t = now + d) := by
  rw [acquireCell_timed]
  exact timedCell_token_iff .leaseConflict (fun _ => nofun) t

/-- **renew** succeeds iff the TTL is valid, a lease is held, the presented token is the current one
and it has not expired (`now < cur`; memory also accepts the very instant `now = cur`). -/
theorem renew_iff (b : Backend) (cur prev now : Nat) (ttl : Int) (t : Nat) :
    (renewCell b cur prev now ttl).2 = .token t ↔
      (∃ d, ttlGuard ttl = some d ∧ cur ≠ 0 ∧ prev = cur ∧
        (now < cur ∨ (b.policy.renewAtExpiry = true ∧ now = cur)) ∧ t = now + d) := by
  rw [renewCell_timed, timedCell_token_iff .leaseExpired (fun _ => nofun) t]
  simp only [and_assoc]

/-- **release** succeeds iff the presented token is the current one (memory additionally answers nil
for token 0 on a free lease, where there is nothing to release). -/
theorem release_iff (b : Backend) (cur tok : Nat) :
    (releaseCell b cur tok).2 = .ok ↔ (tok = cur ∧ (cur ≠ 0 ∨ b.policy.releaseFreeZero = true)) := by
  rw [releaseCell_eq]
  fun_cases Spec.releaseCell b.policy cur tok
  · exact iff_of_true rfl ‹_›
  · exact iff_of_false nofun ‹_›

/-- a successful release frees the lease; a successful grant stores exactly the returned token -/
theorem success_effect (b : Backend) (cur prev now tok : Nat) (ttl : Int) (t : Nat) :
    ((acquireCell cur now ttl).2 = .token t → (acquireCell cur now ttl).1 = t) ∧
    ((renewCell b cur prev now ttl).2 = .token t → (renewCell b cur prev now ttl).1 = t) ∧
    ((releaseCell b cur tok).2 = .ok → (releaseCell b cur tok).1 = 0) := by
  rw [acquireCell_timed, renewCell_timed]
  refine ⟨timedCell_granted .leaseConflict (fun _ => nofun) t,
    timedCell_granted .leaseExpired (fun _ => nofun) t, ?_⟩
  fun_cases releaseCell b cur tok
  · exact fun _ => rfl
  · exact nofun

/-- the token is the expiry instant: `now` plus the TTL truncated to whole seconds -/
theorem token_is_expiry (cur now : Nat) (ttl : Int) (t : Nat) (h : (acquireCell cur now ttl).2 = .token t) :
    now + 1000000000 ≤ t ∧ (t - now) % 1000000000 = 0 ∧ ((t - now : Nat) : Int) ≤ ttl := by
  obtain ⟨d, hd, _, rfl⟩ := (acquire_iff cur now ttl t).mp h
  obtain ⟨h0, h1, h2, _⟩ := ttl_truncated_to_seconds ttl d hd
  rw [Nat.add_sub_cancel_left]
  exact ⟨Nat.add_le_add_left h1 now, h0, h2⟩

/-- every other attempt fails with the documented error and changes nothing -/
theorem failed_attempt_unchanged (b : Backend) (cur prev now tok : Nat) (ttl : Int) :
    ((∀ t, (acquireCell cur now ttl).2 ≠ .token t) →
      (acquireCell cur now ttl).1 = cur ∧
      ((acquireCell cur now ttl).2 = .leaseConflict ∨ (acquireCell cur now ttl).2 = .invalidTTL)) ∧
    ((∀ t, (renewCell b cur prev now ttl).2 ≠ .token t) →
      (renewCell b cur prev now ttl).1 = cur ∧
      ((renewCell b cur prev now ttl).2 = .leaseExpired ∨ (renewCell b cur prev now ttl).2 = .invalidTTL)) ∧
    ((releaseCell b cur tok).2 ≠ .ok →
      (releaseCell b cur tok).1 = cur ∧ (releaseCell b cur tok).2 = .leaseExpired) := by
  rw [acquireCell_timed, renewCell_timed]
  refine ⟨timedCell_refused _, timedCell_refused _, ?_⟩
  fun_cases releaseCell b cur tok
  · exact fun h => absurd rfl h
  · exact fun _ => ⟨rfl, rfl⟩

/-- a valid TTL is never answered `invalidTTL`; with `failed_attempt_unchanged`: acquire fails with conflict, renew
with expired -/
theorem documented_errors (b : Backend) (cur prev now : Nat) (ttl : Int) (h : second ≤ ttl) :
    (acquireCell cur now ttl).2 ≠ .invalidTTL ∧ (renewCell b cur prev now ttl).2 ≠ .invalidTTL := by
  have hn : ttlGuard ttl ≠ none := fun e => Int.not_lt.mpr h ((ttlGuard_none_iff ttl).mp e)
  rw [acquireCell_timed, renewCell_timed]
  exact ⟨timedCell_valid .leaseConflict hn nofun, timedCell_valid .leaseExpired hn nofun⟩

theorem stale_or_forged_renew_rejected (b : Backend) (cur prev now : Nat) (ttl : Int) (h : prev ≠ cur) :
    (renewCell b cur prev now ttl).1 = cur ∧ ∀ t, (renewCell b cur prev now ttl).2 ≠ .token t := by
  rw [renewCell_timed]
  exact And.imp_right (fun r t e => by rw [e] at r; exact r)
    (timedCell_of_not .leaseExpired (fun ok => h ok.2.1) trivial)

theorem stale_or_forged_release_rejected (b : Backend) (cur tok : Nat) (h : tok ≠ cur) :
    releaseCell b cur tok = (cur, .leaseExpired) := by
  rw [releaseCell_eq]
  exact if_neg fun ok => h ok.1

/-- operations on one lease cell -/
inductive LOp where
  | acquire (ttl : Int) (now : Nat)
  | renew (ttl : Int) (prev now : Nat)
  | release (tok : Nat)

def lstep (b : Backend) (cur : Nat) : LOp → Nat × Out
  | .acquire ttl now => acquireCell cur now ttl
  | .renew ttl prev now => renewCell b cur prev now ttl
  | .release tok => releaseCell b cur tok

/-- an attempt by somebody who does not hold token `e`, made before `e` expires -/
def LOp.foreign (e : Nat) : LOp → Prop
  | .acquire _ now => now < e
  | .renew _ prev _ => prev ≠ e
  | .release tok => tok ≠ e

theorem foreign_step (b : Backend) (e : Nat) (op : LOp) (h : op.foreign e) :
    (lstep b e op).1 = e ∧ (lstep b e op).2.refused := by
  cases op <;> dsimp only [lstep]
  case acquire ttl now =>
    rw [acquireCell_timed]
    exact timedCell_of_not .leaseConflict (not_free_or_expired h) trivial
  case renew ttl prev now =>
    rw [renewCell_timed]
    exact timedCell_of_not .leaseExpired (fun ok => h ok.2.1) trivial
  case release tok =>
    rw [stale_or_forged_release_rejected b e tok h]
    exact ⟨rfl, trivial⟩

/-- **exclusive**: once a holder has token `e`, ANY sequence of attempts by others before `e`
expires — acquires at instants `< e`, renewals and releases with any token other than `e` (stale,
forged, zero) — is refused one by one and leaves the lease exactly as it was. -/
theorem exclusive (b : Backend) (e : Nat) (ops : List LOp) (h : ∀ op ∈ ops, op.foreign e) :
    ops.foldl (fun c op => (lstep b c op).1) e = e ∧
    ∀ o ∈ (ops.map fun op => (lstep b e op).2), Out.refused o := by
  refine ⟨List.foldlRecOn (motive := (· = e)) ops _ rfl fun c hc op hop => ?_,
    List.forall_mem_map.mpr fun op hop => (foreign_step b e op (h op hop)).2⟩
  rw [hc]
  exact (foreign_step b e op (h op hop)).1

/-- once the cell holds another token `t ≠ e`, the old token `e` is dead for renew and release; how `t` got there
(`_h`: a re-acquire) plays no part -/
theorem old_token_dead_after_reacquire (b : Backend) (e now now' : Nat) (ttl ttl' : Int) (t : Nat)
    (_h : (acquireCell e now ttl).2 = .token t) (hne : t ≠ e) :
    (∀ t', (renewCell b t e now' ttl').2 ≠ .token t') ∧ (releaseCell b t e).2 = .leaseExpired := by
  refine ⟨(stale_or_forged_renew_rejected b t e now' ttl' hne.symm).2, ?_⟩
  rw [stale_or_forged_release_rejected b t e hne.symm]

/-! ## through the store: a lease operation touches only the lease of its key -/

theorem onLease_ent (s : Store) (k : Key) (r : Nat × Out) (k' : Key) :
    (onLease s k r).1.ent k' = if k' = k then { s.ent k with lease := r.1 } else s.ent k' := by
  rw [onLease_fst]
  by_cases c : r.1 = (s.ent k).lease
  · rw [if_pos c]
    by_cases e : k' = k
    · rw [if_pos e, e, c]
    · rw [if_neg e]
  · rw [if_neg c]; rfl

theorem step_lease_acquire (b : Backend) (hash : Key → Nat) (s : Store) (k : Key) (ttl : Int) (now : Nat) (k' : Key) :
    (step b hash s (.acquire k ttl now)).2 = (acquireCell (s.ent k).lease now ttl).2 ∧
    (step b hash s (.acquire k ttl now)).1.ent k' =
      if k' = k then { s.ent k with lease := (acquireCell (s.ent k).lease now ttl).1 } else s.ent k' :=
  ⟨rfl, onLease_ent _ _ _ _⟩

theorem step_lease_renew (b : Backend) (hash : Key → Nat) (s : Store) (k : Key) (ttl : Int) (prev now : Nat) (k' : Key) :
    (step b hash s (.renew k ttl prev now)).2 = (renewCell b (s.ent k).lease prev now ttl).2 ∧
    (step b hash s (.renew k ttl prev now)).1.ent k' =
      if k' = k then { s.ent k with lease := (renewCell b (s.ent k).lease prev now ttl).1 } else s.ent k' :=
  ⟨rfl, onLease_ent _ _ _ _⟩

theorem step_lease_release (b : Backend) (hash : Key → Nat) (s : Store) (k : Key) (tok : Nat) (k' : Key) :
    (step b hash s (.release k tok)).2 = (releaseCell b (s.ent k).lease tok).2 ∧
    (step b hash s (.release k tok)).1.ent k' =
      if k' = k then { s.ent k with lease := (releaseCell b (s.ent k).lease tok).1 } else s.ent k' :=
  ⟨rfl, onLease_ent _ _ _ _⟩

/-- a lease operation whose result `r` keeps the cell as it is — every refused one, by `failed_attempt_unchanged` —
leaves the whole store as it was -/
theorem refused_store_unchanged (s : Store) (k : Key) (r : Nat × Out) (h : r.1 = (s.ent k).lease) :
    (onLease s k r).1 = s :=
  (onLease_fst s k r).trans (if_pos h)

/-! ## non-vacuity -/

-- A acquires at 100 for 1.9 s (token 1000000100); B's acquire at 1000000099 conflicts, B's forged renew
-- and release fail; A renews in time; at the old expiry instant B still conflicts (renewed);
-- after the new expiry B acquires and A's token is dead.
example :
    let ops : List Op := [.acquire [1] 1900000000 100, .acquire [1] 1000000000 1000000099,
      .renew [1] 1000000000 1000000101 500, .release [1] 1000000099, .renew [1] 2000000000 1000000100 999999999,
      .acquire [1] 1000000000 1000000100, .acquire [1] 1000000000 2999999999, .renew [1] 1000000000 2999999999 3000000000,
      .release [1] 2999999999, .acquire [1] 999999999 9999999999, .acquire [1] (-5) 9999999999]
    run (step .sqlite (fun _ => 0)) Store.init ops =
      [.token 1000000100, .leaseConflict, .leaseExpired, .leaseExpired, .token 2999999999,
       .leaseConflict, .token 3999999999, .leaseExpired, .leaseExpired, .invalidTTL, .invalidTTL] := by decide +kernel

-- the boundary where the back-ends differ: renew exactly at now = token
example : (renewCell .memory 500 500 500 1000000000).2 = .token 1000000500 ∧
    (renewCell .sqlite 500 500 500 1000000000).2 = .leaseExpired ∧
    (releaseCell .memory 0 0).2 = .ok ∧ (releaseCell .sqlite 0 0).2 = .leaseExpired := by decide +kernel

example : LOp.foreign 1000000100 (.acquire 1000000000 1000000099) ∧ LOp.foreign 1000000100 (.renew 5 7 9) := by
  simp [LOp.foreign]

end Specter.Kv
