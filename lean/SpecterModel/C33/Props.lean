import SpecterModel.C33.Model
/-!
# C33 — Hostname normalization and challenge names are canonical

`normalize_ok_iff` (success ↔ every check of `Normalize` is passed) carries the results about `Normalize`: the charset of a result
(whatever the libraries return), no empty label (fix 26af3a2), idempotence under explicit library hypotheses (validated by the
harness on every accepted name), the rejection of wildcards and unqualified names. Records: `hexEncode` is injective, so distinct SHA-224 digests give
distinct record targets.
-/
namespace Specter.C33

theorem normalize_ok_iff (isIP qualifies : Runes → Bool) (toASCII : Runes → Option Runes) (z s : Runes) :
    normalize isIP qualifies toASCII z = .ok s ↔
      isIP (removeSpace z) = false ∧ qualifies (removeSpace z) = true ∧ star ∉ removeSpace z ∧
      toASCII (removeSpace z) = some s ∧ emptyLabel s = false ∧ ∀ c ∈ s, isLDH c = true := by
  constructor
  · fun_cases normalize isIP qualifies toASCII z
    all_goals intro h; cases h
    -- the `.ok` branch, with the passed checks
    · next _ h1 h2 h3 h4 h5 h6 =>
      simp only [Bool.not_eq_true, Bool.not_eq_true', Bool.not_eq_false] at h1 h2 h5
      exact ⟨h1, h2, h3, h4, h5, List.all_eq_true.1 h6⟩
  · rintro ⟨h1, h2, h3, h4, h5, h6⟩
    simp [normalize, h1, h2, h3, h4, h5, List.all_eq_true.2 h6]

/-- Lowercase ASCII letters, digits, hyphen, dot — and nothing else. -/
theorem normalize_charset (isIP qualifies : Runes → Bool) (toASCII : Runes → Option Runes) (z s : Runes)
    (h : normalize isIP qualifies toASCII z = .ok s) : ∀ c ∈ s, isLDH c = true :=
  ((normalize_ok_iff ..).mp h).2.2.2.2.2

/-- An accepted name has no empty label: it neither starts nor ends with a dot nor contains "..". -/
theorem no_empty_label (isIP qualifies : Runes → Bool) (toASCII : Runes → Option Runes) (z s : Runes)
    (h : normalize isIP qualifies toASCII z = .ok s) : emptyLabel s = false :=
  ((normalize_ok_iff ..).mp h).2.2.2.2.1

theorem ldh_not_space (c : Nat) (h : isLDH c = true) : isSpace c = false := by
  cases hs : isSpace c with
  | false => rfl
  | true =>
    -- LDH characters lie in `'-'..'z'`, white space lies outside `'!'..'\x84'`
    have : 45 ≤ c ∧ c ≤ 122 := by
      simp only [isLDH, Bool.or_eq_true, Bool.and_eq_true, decide_eq_true_eq, beq_iff_eq] at h; omega
    have : c ≤ 32 ∨ 133 ≤ c := by
      simp only [isSpace, Bool.or_eq_true, Bool.and_eq_true, decide_eq_true_eq, beq_iff_eq] at hs; omega
    omega

theorem ldh_not_star (s : Runes) (h : ∀ c ∈ s, isLDH c = true) : star ∉ s := fun m => by
  have := h star m; simp [isLDH, star] at this

theorem removeSpace_fix (s : Runes) (h : ∀ c ∈ s, isLDH c = true) : removeSpace s = s := by
  unfold removeSpace
  apply List.filter_eq_self.mpr
  intro c hc; simp [ldh_not_space c (h c hc)]

theorem removeSpace_idem (z : Runes) : removeSpace (removeSpace z) = removeSpace z := by
  unfold removeSpace; simp [List.filter_filter]

/-- **Idempotence.**  Library hypotheses: `hA` — `idna.ToASCII` leaves an LDH string unchanged; `hQ` — a name that qualified and
whose ASCII form is LDH still qualifies and is not an IP literal. (Both are checked by the harness on every accepted name:
the accepted output is fed back into the real `Normalize`.) -/
theorem normalize_idempotent (isIP qualifies : Runes → Bool) (toASCII : Runes → Option Runes)
    (hA : ∀ s, (∀ c ∈ s, isLDH c = true) → toASCII s = some s)
    (hQ : ∀ t s, isIP t = false → qualifies t = true → toASCII t = some s → (∀ c ∈ s, isLDH c = true) →
      isIP s = false ∧ qualifies s = true)
    (z s : Runes) (h : normalize isIP qualifies toASCII z = .ok s) :
    normalize isIP qualifies toASCII s = .ok s := by
  obtain ⟨hip, hq, _, hu, hne, hl⟩ := (normalize_ok_iff ..).mp h
  have := hQ (removeSpace z) s hip hq hu hl
  rw [normalize_ok_iff, removeSpace_fix s hl]
  exact ⟨this.1, this.2, ldh_not_star s hl, hA s hl, hne, hl⟩

theorem error_of_not_ok {r : Except NErr Runes} (h : ∀ s, r ≠ .ok s) : ∃ e, r = .error e := by
  cases r with
  | error e => exact ⟨e, rfl⟩
  | ok s => exact absurd rfl (h s)

theorem rejects_wildcard (isIP qualifies : Runes → Bool) (toASCII : Runes → Option Runes) (z : Runes)
    (h : star ∈ removeSpace z) : ∃ e, normalize isIP qualifies toASCII z = .error e :=
  error_of_not_ok fun _ hok => ((normalize_ok_iff ..).mp hok).2.2.1 h

/-- every IP literal (as recognised by `net.ParseIP` after removing whitespace) is rejected -/
theorem rejects_ip (isIP qualifies : Runes → Bool) (toASCII : Runes → Option Runes) (z : Runes)
    (h : isIP (removeSpace z) = true) : normalize isIP qualifies toASCII z = .error .ip := by
  unfold normalize; simp [h]

/-- local / internal names are rejected as far as certmagic recognises them (`qualifies = false`) -/
theorem rejects_unqualified (isIP qualifies : Runes → Bool) (toASCII : Runes → Option Runes) (z : Runes)
    (h : qualifies (removeSpace z) = false) : ∃ e, normalize isIP qualifies toASCII z = .error e :=
  error_of_not_ok fun _ hok => by simp [((normalize_ok_iff ..).mp hok).2.1] at h

theorem hexDigit_inj {a b : Nat} (h : hexDigit a = hexDigit b) : a = b := by
  unfold hexDigit at h; split at h <;> split at h <;> omega

/-- two hex digits per byte, and `b / 16`, `b % 16` determine `b`: no bound on the bytes is needed -/
theorem hexEncode_inj {a b : Bytes} (h : hexEncode a = hexEncode b) : a = b := by
  induction a generalizing b with
  | nil => cases b with
    | nil => rfl
    | cons y ys => simp [hexEncode] at h
  | cons x xs ih =>
    cases b with
    | nil => simp [hexEncode] at h
    | cons y ys =>
      simp only [hexEncode, List.cons.injEq] at h
      have h1 := hexDigit_inj h.1
      have h2 := hexDigit_inj h.2.1
      rw [ih h.2.2, show x = y by omega]

theorem hexEncode_injective (a b : Bytes) (ha : ∀ x ∈ a, x < 256) (hb : ∀ x ∈ b, x < 256)
    (h : hexEncode a = hexEncode b) : a = b :=
  hexEncode_inj h

/-- **Distinct tokens give distinct challenge targets**, exactly as far as SHA-224 separates them. -/
theorem record_distinct (sha224 : Bytes → Bytes) (hs : ∀ t, ∀ x ∈ sha224 t, x < 256) (zone delegation : Runes)
    (t1 t2 : Bytes) (zfq dfq : Bool) (hne : sha224 t1 ≠ sha224 t2) :
    (customRecord sha224 zone delegation t1 zfq dfq).2 ≠ (customRecord sha224 zone delegation t2 zfq dfq).2 := by
  intro h
  have h' : (hexEncode (sha224 t1) ++ (dot :: delegation)) ++ (if dfq then [] else [dot])
      = (hexEncode (sha224 t2) ++ (dot :: delegation)) ++ (if dfq then [] else [dot]) := h
  exact hne (hexEncode_inj (List.append_cancel_right (List.append_cancel_right h')))

/-- the record NAME never depends on the token (only the target does, `record_distinct`) -/
theorem record_name_token_free (sha224 : Bytes → Bytes) (zone delegation : Runes) (t1 t2 : Bytes) (zfq dfq : Bool) :
    (customRecord sha224 zone delegation t1 zfq dfq).1 = (customRecord sha224 zone delegation t2 zfq dfq).1 := rfl

/-! ## non-vacuity -/
def exIP : Runes → Bool := fun t => t == [56, 46, 56]                 -- pretend "8.8" is an IP literal
def exQ : Runes → Bool := fun t => t != [108, 111]                     -- pretend "lo" is local
def exA : Runes → Option Runes := fun t => if t.all (· < 128) then some t else none
def resIs (r : Except NErr Runes) (want : Except NErr Runes) : Bool :=
  match r, want with
  | .ok a, .ok b => a == b
  | .error a, .error b => a == b
  | _, _ => false
example : resIs (normalize exIP exQ exA [97, 32, 98, 46, 99]) (.ok [97, 98, 46, 99]) = true := by decide +kernel   -- "a b.c" → "ab.c"
example : resIs (normalize exIP exQ exA [97, 98, 46, 99]) (.ok [97, 98, 46, 99]) = true := by decide +kernel
example : resIs (normalize exIP exQ exA [56, 46, 9, 56]) (.error .ip) = true := by decide +kernel
example : resIs (normalize exIP exQ exA [108, 111]) (.error .qualify) = true := by decide +kernel
example : resIs (normalize exIP exQ exA [42, 46, 97]) (.error .wildcard) = true := by decide +kernel
example : resIs (normalize exIP exQ exA [65, 46, 97]) (.error .chars) = true := by decide +kernel                    -- "A.a"
example : resIs (normalize exIP exQ exA [228, 46, 97]) (.error .idna) = true := by decide +kernel
example : resIs (normalize exIP exQ exA [46, 97, 46, 98]) (.error .emptyLabel) = true := by decide +kernel           -- ".a.b"
example : resIs (normalize exIP exQ exA [97, 46, 46, 98]) (.error .emptyLabel) = true := by decide +kernel           -- "a..b"
example : resIs (normalize exIP exQ exA [97, 46]) (.error .emptyLabel) = true := by decide +kernel                   -- "a." 
example : (customRecord (fun t => t) [97] [98] [1, 255] false false).2 = [48, 49, 102, 102, 46, 98, 46] := by decide +kernel
example : (customRecord (fun t => t) [97] [98] [1] false true).1 = acmePrefix ++ [97, 46] := by decide +kernel

end Specter.C33
