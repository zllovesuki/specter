import SpecterModel.C18.Model
/-!
# C18 / C04 — the linearizability checker is sound and complete

`linearizable_iff`: for every recorded history the executable check `linearizable evs init` returns `true` exactly
when the history is `Linearizable`. So a "not linearizable" verdict of the drivers of C18 and C04 is never a false
alarm of the search (completeness), and an accepted history really has a linearization (soundness). The memo is
handled by the invariant `MemoOK`: it only ever holds configurations that have no linearization.
-/
namespace Specter.C18.Lin

variable {inv ret : Nat → Nat} {app : Nat → String → Option String}

/-- sequential run of an order -/
def run (app : Nat → String → Option String) : List Nat → String → Option String
  | [], st => some st
  | i :: rest, st => match app i st with
    | none => none
    | some st' => run app rest st'

/-- readable form of `Valid` -/
theorem valid_iff (order : List Nat) (st : String) :
    Valid inv ret app order st ↔
      order.Pairwise (fun a b => ¬ ret b < inv a) ∧ (run app order st).isSome = true := by
  induction order generalizing st with
  | nil => exact iff_of_true trivial ⟨.nil, rfl⟩
  | cons i rest ih =>
    simp only [Valid, List.pairwise_cons, run, and_assoc]
    cases app i st with
    | none => exact iff_of_false (fun ⟨_, _, h, _⟩ => nomatch h) (fun ⟨_, _, h⟩ => nomatch h)
    | some st' => simp only [ih, Option.some.injEq, exists_eq_left']

theorem lin_nil (st : String) : Lin inv ret app [] st := ⟨[], List.Perm.refl _, trivial⟩

theorem minimal_iff (rem : List Nat) (i : Nat) :
    minimal inv ret rem i = true ↔ ∀ j ∈ rem.erase i, ¬ ret j < inv i := by
  simp only [minimal, List.all_eq_true, Bool.not_eq_true', decide_eq_false_iff_not]

/-- one unfolding of the specification: the first call of a linearization is a minimal remaining call -/
theorem lin_iff (rem : List Nat) (st : String) :
    Lin inv ret app rem st ↔
      rem = [] ∨ ∃ i ∈ rem, minimal inv ret rem i = true ∧ ∃ st', app i st = some st' ∧
        Lin inv ret app (rem.erase i) st' := by
  constructor
  · rintro ⟨order, hp, hv⟩
    cases order with
    | nil => left; exact List.nil_perm.mp hp
    | cons i rest =>
      right
      obtain ⟨hi, hpr⟩ := List.cons_perm_iff_perm_erase.mp hp
      obtain ⟨h1, st', h2, h3⟩ := hv
      exact ⟨i, hi, (minimal_iff rem i).mpr fun j hj => h1 j (hpr.mem_iff.mpr hj), st', h2, rest, hpr, h3⟩
  · rintro (h | ⟨i, hi, hmin, st', h2, order, hpr, hv⟩)
    · subst h; exact lin_nil st
    · exact ⟨i :: order, List.cons_perm_iff_perm_erase.mpr ⟨hi, hpr⟩,
        fun j hj => (minimal_iff rem i).mp hmin j (hpr.mem_iff.mp hj), st', h2, hv⟩

/-- the memo only holds configurations without a linearization -/
def MemoOK (inv ret : Nat → Nat) (app : Nat → String → Option String) (m : Memo) : Prop :=
  ∀ rem st, m.contains (rem, st) = true → ¬ Lin inv ret app rem st

theorem memoOK_empty : MemoOK inv ret app ({} : Memo) := by
  intro rem st h; simp at h

theorem MemoOK.insert {m : Memo} (hm : MemoOK inv ret app m) {rem : List Nat} {st : String}
    (h : ¬ Lin inv ret app rem st) : MemoOK inv ret app (m.insert (rem, st)) := by
  intro rem' st' hcon
  rw [Std.HashSet.contains_insert, Bool.or_eq_true] at hcon
  rcases hcon with e | hcon
  · cases eq_of_beq e; exact h
  · exact hm rem' st' hcon

/-- what a correct recursive call looks like -/
def RecOK (inv ret : Nat → Nat) (app : Nat → String → Option String) (f : Nat)
    (rec : List Nat → String → Memo → Bool × Memo) : Prop :=
  ∀ rem st m, rem.length ≤ f → MemoOK inv ret app m →
    MemoOK inv ret app (rec rem st m).2 ∧ ((rec rem st m).1 = true ↔ Lin inv ret app rem st)

theorem attempt_spec {f : Nat} {rec : List Nat → String → Memo → Bool × Memo} (hrec : RecOK inv ret app f rec)
    (rem : List Nat) (st : String) (hlen : rem.length ≤ f + 1) (cs : List Nat) (hcs : ∀ i ∈ cs, i ∈ rem)
    (m : Memo) (hm : MemoOK inv ret app m) :
    MemoOK inv ret app (attempt inv ret app rec rem st cs m).2 ∧
    ((attempt inv ret app rec rem st cs m).1 = true ↔
      ∃ i ∈ cs, minimal inv ret rem i = true ∧ ∃ st', app i st = some st' ∧ Lin inv ret app (rem.erase i) st') := by
  have hrec' {i : Nat} (hi : i ∈ rem) (st' : String) (m : Memo) := hrec (rem.erase i) st' m <| by
    rw [List.length_erase_of_mem hi]
    exact Nat.sub_le_of_le_add hlen
  -- the first call is candidate `i` or a later one
  have first {p : Nat → Prop} {i : Nat} {cs : List Nat} : (∃ j, j ∈ i :: cs ∧ p j) ↔ p i ∨ ∃ j, j ∈ cs ∧ p j := by
    simp only [List.mem_cons, exists_eq_or_imp]
  fun_induction attempt inv ret app rec rem st cs m
  case case1 m => exact ⟨hm, iff_of_false nofun nofun⟩   -- no candidate left
  all_goals
    replace hcs := List.forall_mem_cons.mp hcs
    rw [first]
  case case2 i cs m hmin happ ih =>   -- `i` does not apply
    exact (ih hcs.2 hm).imp_right (·.trans (or_iff_right fun ⟨_, _, h, _⟩ => nomatch happ.symm.trans h).symm)
  case case3 i cs m hmin st' happ r hr =>   -- `i` applies, the rest linearizes
    have ⟨rm, rb⟩ := hrec' hcs.1 st' m hm
    exact ⟨rm, iff_of_true rfl (Or.inl ⟨hmin, st', happ, rb.mp hr⟩)⟩
  case case4 i cs m hmin st' happ r hr ih =>   -- `i` applies, the rest does not
    have ⟨rm, rb⟩ := hrec' hcs.1 st' m hm
    refine (ih hcs.2 rm).imp_right (·.trans (or_iff_right fun ⟨_, st'', h, hl⟩ => hr (rb.mpr ?_)).symm)
    cases happ.symm.trans h
    exact hl
  case case5 i cs m hmin ih =>   -- `i` not minimal
    exact (ih hcs.2 hm).imp_right (·.trans (or_iff_right fun h => hmin h.1).symm)

theorem search_spec (f : Nat) : RecOK inv ret app f (search inv ret app f) := by
  induction f with
  | zero =>
    intro rem st m hlen hm
    obtain rfl : rem = [] := List.eq_nil_of_length_eq_zero (Nat.le_zero.mp hlen)
    exact ⟨hm, iff_of_true rfl (lin_nil st)⟩
  | succ f ih =>
    intro rem st m hlen hm
    unfold search
    by_cases he : rem.isEmpty = true
    · obtain rfl : rem = [] := List.isEmpty_iff.mp he
      exact ⟨hm, iff_of_true rfl (lin_nil st)⟩
    rw [if_neg he]
    by_cases hc : m.contains (rem, st) = true
    · rw [if_pos hc]
      exact ⟨hm, iff_of_false nofun (hm rem st hc)⟩
    rw [if_neg hc]
    have ⟨am, ab⟩ := attempt_spec ih rem st hlen rem (fun _ h => h) m hm
    -- `lin_iff`: a non-empty `rem` can be linearized iff one of its calls can come first
    replace ab := ab.trans ((lin_iff rem st).trans (or_iff_right fun h => he (List.isEmpty_iff.mpr h))).symm
    by_cases hr : (attempt inv ret app (search inv ret app f) rem st rem m).1 = true
    · exact (if_pos hr).symm ▸ ⟨am, iff_of_true hr (ab.mp hr)⟩
    · have hnl := mt ab.mpr hr
      exact (if_neg hr).symm ▸ ⟨am.insert hnl, iff_of_false nofun hnl⟩

end Specter.C18.Lin

namespace Specter.C18

/-- C18/C04: the executable check decides exactly the specification, for every history. -/
theorem linearizable_iff (evs : Array Ev) (init : String) :
    linearizable evs init = true ↔ Linearizable evs init := by
  unfold linearizable Linearizable
  exact (Lin.search_spec evs.size (List.range evs.size) init {} (by simp) Lin.memoOK_empty).2

/-- a "not linearizable" verdict is never an artefact of the search -/
theorem not_linearizable_sound (evs : Array Ev) (init : String) (h : linearizable evs init = false) :
    ¬ Linearizable evs init := by
  intro hl; rw [(linearizable_iff evs init).mpr hl] at h; cases h

/-- an accepted history comes with its order, in the form of `valid_iff` -/
theorem linearizable_witness (evs : Array Ev) (init : String) (h : linearizable evs init = true) :
    ∃ order : List Nat, order.Perm (List.range evs.size) ∧
      order.Pairwise (fun a b => ¬ (evs[b]!).ret < (evs[a]!).inv) ∧
      (Lin.run (fun i => (evs[i]!).apply) order init).isSome = true := by
  obtain ⟨order, hp, hv⟩ := (linearizable_iff evs init).mp h
  exact ⟨order, hp, (Lin.valid_iff order init).mp hv⟩

/-- C04/C18: a history whose calls each take effect atomically at some instant inside
their invocation / response bracket (the shape of every history produced by a system whose operations are single
atomic steps, e.g. `C04.kvAt_atomic` under a lock or a successful CAS of `C18.Simple`) is `Linearizable`, and the
executable check accepts it: order the calls by their instants `p`. -/
theorem linearizable_of_points (evs : Array Ev) (init : String) (order : List Nat)
    (hperm : order.Perm (List.range evs.size)) (p : Nat → Nat)
    (hin : ∀ i ∈ order, (evs[i]!).inv ≤ p i ∧ p i ≤ (evs[i]!).ret)
    (hsorted : order.Pairwise (fun a b => p a < p b))
    (hrun : (Lin.run (fun i => (evs[i]!).apply) order init).isSome = true) :
    Linearizable evs init ∧ linearizable evs init = true := by
  have hl : Linearizable evs init := by
    refine ⟨order, hperm, (Lin.valid_iff order init).mpr ⟨hsorted.imp_of_mem fun ha hb hab => ?_, hrun⟩⟩
    -- inv a ≤ p a < p b ≤ ret b
    exact Nat.not_lt.mpr (Nat.le_of_lt (Nat.lt_of_le_of_lt (hin _ ha).1 (Nat.lt_of_lt_of_le hab (hin _ hb).2)))
  exact ⟨hl, (linearizable_iff evs init).mpr hl⟩

/-! non-vacuity: a register history `put a` (1..2), `get -> a` (3..4) is accepted; with `get -> ""` it is refused -/
def putA : String → Option String := fun _ => some "a"
def getIs (v : String) : String → Option String := fun st => if st = v then some st else none

example : Linearizable #[⟨1, 2, putA, ""⟩, ⟨3, 4, getIs "a", ""⟩] "" :=
  ⟨[0, 1], List.Perm.refl _, (Lin.valid_iff _ _).mpr (by decide)⟩

example : ¬ Linearizable #[⟨1, 2, putA, ""⟩, ⟨3, 4, getIs "", ""⟩] "" := by
  -- by `lin_iff` a linearization starts with a minimal call: that is `put a`, after which `get` cannot read ""
  intro h
  obtain h | ⟨i, hi, hmin, st', happ, h⟩ := (Lin.lin_iff _ _).mp h
  · cases h
  · obtain rfl | rfl : i = 0 ∨ i = 1 := by have : i < 2 := List.mem_range.mp hi; omega
    · cases happ
      obtain h | ⟨j, hj, -, st'', happ', -⟩ := (Lin.lin_iff _ _).mp h
      · cases h
      · obtain rfl : j = 1 := List.mem_singleton.mp hj
        cases happ'
    · exact absurd hmin (by decide)

end Specter.C18
