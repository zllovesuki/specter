import SpecterModel.C18.Model
import SpecterModel.FunUpd
/-!
# C18 — Storage backends are safe under concurrent use

Theorems about the small-step interleaving models of the memory back-end (`Model.lean`), for ANY number
of threads and EVERY schedule (induction over `Reachable`):
* `Simple.put_cas_linearizable`, `Simple.no_lost_ack`, `Simple.conflict_only_if_concurrent`
  (`Put`/`Delete`/`Get` on the CAS-protected value pointer, incl. the shared `&empty` ABA case),
* `Lease.acquire_once`, `Lease.acquire_once_within_ttl` (`Acquire` = Load; clock; CAS),
* `Children.append_once`, `Children.append_once_no_remove` (one linearizable skipset call per operation —
  linearizability of `skipset`/`skipmap` themselves is assumed).
The AOF back-end (single writer goroutine) and the SQLite back-end (single writer connection, immediate
transactions) are not modelled at small-step level; all three back-ends are validated by the recorded-
history linearizability check of the driver.
-/
namespace Specter.C18

theorem specRun_snoc {σ ο ρ : Type} {f : σ → ο → ρ → Option σ} {s a a' : σ} {l : List (ο × ρ)} {o : ο} {r : ρ}
    (h : specRun f s l = some a) (hf : f a o r = some a') : specRun f s (l ++ [(o, r)]) = some a' := by
  fun_induction specRun f s l
  case case1 =>
    cases h
    simp only [List.nil_append, specRun, hf]
  case case2 => cases h   -- illegal step
  case case3 s o' r' rest s' hs ih =>
    simp only [List.cons_append, specRun, hs]
    exact ih h

theorem upd_same {α} (f : Nat → α) (i : Nat) (v : α) : upd f i v i = v := if_pos rfl
theorem upd_other {α} {f : Nat → α} {i j : Nat} {v : α} (h : j ≠ i) : upd f i v j = f j := if_neg h

namespace Simple

structure Inv (s : Sys) : Prop where
  heap0 : s.heap 0 = ""
  nextpos : 0 < s.next
  ptrlt : s.ptr < s.next
  spec : specRun specSimple "" s.lin = some (abs s)
  fresh : ∀ t cur op, s.pc t = .loaded cur op →
    op ≠ .get ∧ s.seen t ≤ s.ver ∧ (s.seen t = s.ver → s.ptr = cur)

theorem inv_init : Inv init := ⟨rfl, by decide, by decide, rfl, fun _ _ _ h => by cases h⟩

/-- after a successful CAS every other pending call has `seen < ver`, whatever `ptr` becomes -/
theorem Inv.fresh_bump {s : Sys} (hi : Inv s) {t t' c : Nat} {op' : SOp} {r : SRes} (p : Nat)
    (hp : upd s.pc t (.done r) t' = .loaded c op') :
    op' ≠ .get ∧ s.seen t' ≤ s.ver + 1 ∧ (s.seen t' = s.ver + 1 → p = c) :=
  have ⟨h1, h2, _⟩ := hi.fresh t' c op' (of_upd_ne hp nofun)
  ⟨h1, Nat.le_succ_of_le h2, fun he => absurd he (Nat.ne_of_lt (Nat.lt_succ_of_le h2))⟩

theorem Inv.frame {s : Sys} (hi : Inv s) (t : Nat) (pc' : PC) (hpc : ∀ c op, pc' ≠ .loaded c op)
    {lin' : List (SOp × SRes)} (hl : specRun specSimple "" lin' = some (abs s)) :
    Inv { s with pc := upd s.pc t pc', lin := lin' } :=
  ⟨hi.heap0, hi.nextpos, hi.ptrlt, hl, fun t' c op' hp => hi.fresh t' c op' (of_upd_ne hp (hpc c op'))⟩

theorem inv_step {s s' : Sys} (hi : Inv s) (hs : Step s s') : Inv s' := by
  cases hs with
  | load t op h hop =>
    refine ⟨hi.heap0, hi.nextpos, hi.ptrlt, hi.spec, fun t' cur op' hp => ?_⟩
    rcases of_upd hp with ⟨rfl, hv⟩ | ⟨ht, hp⟩
    · cases hv
      exact ⟨hop, Nat.le_of_eq (upd_same _ _ _), fun _ => rfl⟩
    · simp only [upd_other ht]
      exact hi.fresh t' cur op' hp
  | casPut t cur v h hw =>
    exact ⟨(upd_other (Nat.ne_of_lt hi.nextpos)).trans hi.heap0, Nat.succ_pos _, Nat.lt_succ_self _,
      specRun_snoc hi.spec (congrArg some (upd_same _ _ _).symm), fun _ _ _ hp => hi.fresh_bump s.next hp⟩
  | casDel t cur h hw =>
    exact ⟨hi.heap0, hi.nextpos, hi.nextpos, specRun_snoc hi.spec (congrArg some hi.heap0.symm),
      fun _ _ _ hp => hi.fresh_bump 0 hp⟩
  | casFail t cur op h hw =>
    refine hi.frame t (.done .conflict) (fun _ _ => nofun) (specRun_snoc hi.spec ?_)
    cases op with
    | put v => rfl
    | del => rfl
    | get => exact absurd rfl (hi.fresh t cur .get h).1   -- a `Get` never reaches the CAS
  | get t h =>
    exact hi.frame t (.done _) (fun _ _ => nofun) (specRun_snoc hi.spec (if_pos rfl))
  | ret t r h => exact hi.frame t .idle (fun _ _ => nofun) hi.spec

theorem inv_reachable {s : Sys} (h : Reachable s) : Inv s := by
  induction h with
  | init => exact inv_init
  | step _ hs ih => exact inv_step ih hs

/-- C18: in every reachable state of any number of threads, the ghost log — extended
by the stepping thread exactly at its successful CAS (effect), its failed CAS (`ErrKVSimpleConflict`, no
effect) or its `Load` (`Get`), i.e. at an instant inside that call — is a legal sequential history of
the register specification and ends in the value currently stored.  The shared `&empty` pointer of
`Delete` (ABA) does not matter: only pointer equality at the CAS instant is used. -/
theorem put_cas_linearizable {s : Sys} (h : Reachable s) : specRun specSimple "" s.lin = some (abs s) :=
  (inv_reachable h).spec

/-- a CAS can only fail (`ErrKVSimpleConflict`) when another call's CAS succeeded since this call's `Load` -/
theorem conflict_only_if_concurrent {s : Sys} (h : Reachable s) (t cur : Nat) (op : SOp)
    (hp : s.pc t = .loaded cur op) (hne : s.ptr ≠ cur) : s.seen t < s.ver := by
  obtain ⟨_, hle, himp⟩ := (inv_reachable h).fresh t cur op hp
  exact Nat.lt_of_le_of_ne hle fun he => hne (himp he)

/-- the register after one call; `lastWrite`: after the last successful write of a history (`cur` if none) -/
def writeOf (cur : String) : SOp → SRes → String
  | .put v, .ok => v
  | .del, .ok => ""
  | _, _ => cur

def lastWrite : String → List (SOp × SRes) → String
  | cur, [] => cur
  | cur, (o, r) :: rest => lastWrite (writeOf cur o r) rest

theorem specSimple_write {cur s' : String} {o : SOp} {r : SRes} (h : specSimple cur o r = some s') :
    s' = writeOf cur o r := by
  revert h
  fun_cases specSimple cur o r <;> intro h <;> cases h <;> rfl

theorem specRun_lastWrite (l : List (SOp × SRes)) (i v : String) (h : specRun specSimple i l = some v) :
    v = lastWrite i l := by
  fun_induction specRun specSimple i l
  case case1 =>
    cases h
    rfl
  case case2 => cases h   -- illegal step
  case case3 s o r rest s' hs ih =>
    rw [lastWrite, ← specSimple_write hs]
    exact ih h

/-- C18: the stored value is the argument of the last successful CAS — an acknowledged
`Put`/`Delete` is never lost, an `ErrKVSimpleConflict` one never takes effect. -/
theorem no_lost_ack {s : Sys} (h : Reachable s) : abs s = lastWrite "" s.lin :=
  specRun_lastWrite s.lin "" (abs s) (put_cas_linearizable h)

/-- non-vacuity + the ABA scenario: t0 loads `&empty`; t1 puts "x"; t2 deletes (pointer is `&empty` again);
t0's CAS succeeds although two writes happened in between — and the history is still legal. -/
def abaRun : Sys :=
  let s0 := init
  let s1 := { s0 with pc := upd s0.pc 0 (.loaded 0 (.put "a")), seen := upd s0.seen 0 0 }
  let s2 := { s1 with pc := upd s1.pc 1 (.loaded 0 (.put "x")), seen := upd s1.seen 1 0 }
  let s3 := { s2 with ptr := 1, heap := upd s2.heap 1 "x", next := 2, pc := upd s2.pc 1 (.done .ok), ver := 1,
                      lin := [(.put "x", .ok)] }
  let s4 := { s3 with pc := upd s3.pc 2 (.loaded 1 .del), seen := upd s3.seen 2 1 }
  let s5 := { s4 with ptr := 0, pc := upd s4.pc 2 (.done .ok), ver := 2, lin := [(.put "x", .ok), (.del, .ok)] }
  { s5 with ptr := 2, heap := upd s5.heap 2 "a", next := 3, pc := upd s5.pc 0 (.done .ok), ver := 3,
            lin := [(.put "x", .ok), (.del, .ok), (.put "a", .ok)] }

theorem aba_reachable : Reachable abaRun := by
  have r0 := Reachable.init
  have r1 := r0.step (Step.load init 0 (.put "a") rfl nofun)
  have r2 := r1.step (Step.load _ 1 (.put "x") rfl nofun)
  have r3 := r2.step (Step.casPut _ 1 0 "x" rfl rfl)
  have r4 := r3.step (Step.load _ 2 .del rfl nofun)
  have r5 := r4.step (Step.casDel _ 2 1 rfl rfl)
  have r6 := r5.step (Step.casPut _ 0 0 "a" rfl rfl)
  exact r6

example : abs abaRun = "a" ∧ lastWrite "" abaRun.lin = "a" := by decide +kernel
end Simple

namespace Lease

structure Inv (w0 c0 : Nat) (s : Sys) : Prop where
  pw : s.grants.Pairwise (fun a b => a.1 ≥ b.2)
  le : ∀ e ∈ s.grants, e.2 ≤ s.word
  clk : c0 ≤ s.clock
  empty : s.grants = [] → s.word = w0
  ld : ∀ t cur ttl, s.pc t = .loaded cur ttl → 0 < ttl ∧ (s.grants = [] → cur = w0)
  ck : ∀ t cur now ttl, s.pc t = .checked cur now ttl → cur ≤ now ∧ 0 < ttl ∧ (s.grants = [] → cur = w0)
  rej : ∀ t, s.pc t = .done none → s.grants ≠ []

theorem inv_init (w0 c0 : Nat) : Inv w0 c0 (init w0 c0) :=
  ⟨List.Pairwise.nil, nofun, Nat.le_refl _, fun _ => rfl, fun _ _ _ h => (by cases h), fun _ _ _ _ h => (by cases h),
    fun _ h => (by cases h)⟩

/-- `ld`, `ck`, `rej` speak of one thread's pc at a time: it is enough that the new `pc'` satisfies them -/
theorem Inv.frame {w0 c0 : Nat} {s : Sys} (hi : Inv w0 c0 s) (t : Nat) {pc' : PC}
    (hld : ∀ c l, pc' = .loaded c l → 0 < l ∧ (s.grants = [] → c = w0))
    (hck : ∀ c n l, pc' = .checked c n l → c ≤ n ∧ 0 < l ∧ (s.grants = [] → c = w0))
    (hrej : pc' = .done none → s.grants ≠ []) :
    Inv w0 c0 { s with pc := upd s.pc t pc' } :=
  ⟨hi.pw, hi.le, hi.clk, hi.empty,
    fun t' c l hp => (of_upd hp).elim (fun e => hld c l e.2) fun e => hi.ld t' c l e.2,
    fun t' c n l hp => (of_upd hp).elim (fun e => hck c n l e.2) fun e => hi.ck t' c n l e.2,
    fun t' hp => (of_upd hp).elim (fun e => hrej e.2) fun e => hi.rej t' e.2⟩

theorem inv_step {w0 c0 : Nat} (hfree : w0 ≤ c0) {s s' : Sys} (hi : Inv w0 c0 s) (hs : Step s s') : Inv w0 c0 s' := by
  cases hs with
  | tick => exact ⟨hi.pw, hi.le, Nat.le_succ_of_le hi.clk, hi.empty, hi.ld, hi.ck, hi.rej⟩
  | load t ttl h httl => exact hi.frame t (fun c l e => by cases e; exact ⟨httl, hi.empty⟩) nofun nofun
  | busy t cur ttl h hc =>
    -- a token in the future cannot be the initial one
    have hne : s.grants ≠ [] := fun he => by
      have := (hi.ld t cur ttl h).2 he
      have := hi.clk
      omega
    exact hi.frame t nofun nofun fun _ => hne
  | check t cur ttl h hc =>
    exact hi.frame t nofun (fun c n l e => by cases e; exact ⟨Nat.le_of_not_gt hc, hi.ld t cur ttl h⟩) nofun
  | casOk t cur now ttl h hw =>
    -- every earlier token is at most the word just replaced, and that was not in the future at `now`
    have old : ∀ e ∈ s.grants, e.2 ≤ now := fun e he => Nat.le_trans (hw ▸ hi.le e he) (hi.ck t cur now ttl h).1
    exact ⟨List.Pairwise.cons old hi.pw,
      List.forall_mem_cons.mpr ⟨Nat.le_refl _, fun e he => Nat.le_add_right_of_le (old e he)⟩,
      hi.clk, nofun, fun t' c l hp => ⟨(hi.ld t' c l (of_upd_ne hp nofun)).1, nofun⟩,
      fun t' c n l hp => have ⟨a, b, _⟩ := hi.ck t' c n l (of_upd_ne hp nofun); ⟨a, b, nofun⟩, fun _ _ => nofun⟩
  | casFail t cur now ttl h hw =>
    -- the word differs from what was loaded, so it is no longer the initial one
    have hne : s.grants ≠ [] := fun he => hw ((hi.empty he).trans ((hi.ck t cur now ttl h).2.2 he).symm)
    exact hi.frame t nofun nofun fun _ => hne
  | ret t r h => exact hi.frame t nofun nofun nofun

theorem inv_reachable {w0 c0 : Nat} (hfree : w0 ≤ c0) {s : Sys} (h : Reachable w0 c0 s) : Inv w0 c0 s := by
  induction h with
  | init => exact inv_init w0 c0
  | step _ hs ih => exact inv_step hfree ih hs

/-- C18, any threads, schedule and clock, from a free lease (`w0 ≤ c0`): (1) grants never
overlap — a later grant was decided at a clock reading not before the expiry (= token) of any earlier one;
(2) a rejected `Acquire` implies that some `Acquire` was granted. -/
theorem acquire_once {w0 c0 : Nat} (hfree : w0 ≤ c0) {s : Sys} (h : Reachable w0 c0 s) :
    s.grants.Pairwise (fun later earlier => later.1 ≥ earlier.2) ∧
    (∀ t, s.pc t = .done none → s.grants ≠ []) :=
  ⟨(inv_reachable hfree h).pw, (inv_reachable hfree h).rej⟩

/-- … hence while the whole run stays within one TTL (every grant was decided before `T`, no token
expires before `T`) at most one `Acquire` succeeds; with (2): exactly one once any call has finished. -/
theorem acquire_once_within_ttl {w0 c0 : Nat} (hfree : w0 ≤ c0) {s : Sys} (h : Reachable w0 c0 s) (T : Nat)
    (hT : ∀ g ∈ s.grants, g.1 < T ∧ T ≤ g.2) : s.grants.length ≤ 1 := by
  have hp := (acquire_once hfree h).1
  match hg : s.grants with
  | [] => exact Nat.zero_le 1
  | [_] => exact Nat.le_refl 1
  | a :: b :: rest =>
    rw [hg] at hp hT
    have h1 := (List.pairwise_cons.mp hp).1 b List.mem_cons_self
    have h2 := hT a List.mem_cons_self
    have h3 := hT b (List.mem_cons_of_mem _ List.mem_cons_self)
    -- b.2 ≤ a.1 < T ≤ b.2
    exact absurd (Nat.lt_of_le_of_lt h1 h2.1) (Nat.not_lt.mpr h3.2)

/-- non-vacuity: two threads race for a free lease; one is granted, the other is rejected -/
theorem race_reachable : ∃ s, Reachable 0 5 s ∧ s.grants = [(5, 15)] ∧ s.pc 0 = .done (some 15) ∧ s.pc 1 = .done none := by
  have r0 : Reachable 0 5 (init 0 5) := Reachable.init
  have r1 := r0.step (Step.load _ 0 10 rfl (by decide))
  have r2 := r1.step (Step.load _ 1 10 rfl (by decide))
  have r3 := r2.step (Step.check _ 0 0 10 rfl (by decide))
  have r4 := r3.step (Step.check _ 1 0 10 rfl (by decide))
  have r5 := r4.step (Step.casOk _ 0 0 5 10 rfl rfl)
  have r6 := r5.step (Step.casFail _ 1 0 5 10 rfl (by decide))
  exact ⟨_, r6, rfl, rfl, rfl⟩
end Lease

namespace Children

structure Inv (s : Sys) : Prop where
  count : ∀ c, s.okAdds c = s.removed c + (if c ∈ s.set then 1 else 0)
  conf : ∀ c, 0 < s.conflicts c → 0 < s.okAdds c

theorem inv_init : Inv init := ⟨fun _ => rfl, fun _ h => absurd h (Nat.lt_irrefl 0)⟩

theorem inv_step {s s' : Sys} (hi : Inv s) (hs : Step s s') : Inv s' := by
  -- every step bumps one counter at one child `c`: look at `c` itself, elsewhere nothing has changed
  cases hs with
  | addOk c h =>
    refine ⟨fun c' => ?_, fun c' hp => ?_⟩
    · have := hi.count c'
      show bump s.okAdds c c' = s.removed c' + if c' ∈ c :: s.set then 1 else 0
      fun_cases bump s.okAdds c c'
      · subst c'
        rw [if_pos List.mem_cons_self, this, if_neg h]
      · simp [*]
    · show 0 < bump s.okAdds c c'
      fun_cases bump s.okAdds c c'
      · exact Nat.succ_pos _
      · exact hi.conf c' hp
  | addConflict c h =>
    refine ⟨hi.count, fun c' => ?_⟩
    show 0 < bump s.conflicts c c' → 0 < s.okAdds c'
    fun_cases bump s.conflicts c c'
    · subst c'
      have := hi.count c
      rw [if_pos h] at this
      exact fun _ => this ▸ Nat.succ_pos _
    · exact hi.conf c'
  | removeHit c h =>
    refine ⟨fun c' => ?_, hi.conf⟩
    have := hi.count c'
    show s.okAdds c' = bump s.removed c c' + if c' ∈ s.set.filter (· ≠ c) then 1 else 0
    fun_cases bump s.removed c c'
    · subst c'
      rw [if_pos h] at this
      simpa using this
    · simp [*]
  | removeMiss c h => exact hi

theorem inv_reachable {s : Sys} (h : Reachable s) : Inv s := by
  induction h with
  | init => exact inv_init
  | step _ hs ih => exact inv_step ih hs

/-- C18: for every child, successful appends and effective removes alternate; a conflict
answer implies an earlier success.  In particular k concurrent appends of one child without removes: exactly
one `nil`, k−1 `ErrKVPrefixConflict`. -/
theorem append_once {s : Sys} (h : Reachable s) (c : String) :
    s.okAdds c = s.removed c + (if c ∈ s.set then 1 else 0) ∧ (0 < s.conflicts c → 0 < s.okAdds c) :=
  ⟨(inv_reachable h).count c, (inv_reachable h).conf c⟩

theorem append_once_no_remove {s : Sys} (h : Reachable s) (c : String) (hr : s.removed c = 0) :
    s.okAdds c ≤ 1 ∧ (0 < s.conflicts c → s.okAdds c = 1) := by
  obtain ⟨h1, h2⟩ := append_once h c
  rw [hr] at h1
  refine ⟨by split at h1 <;> omega, fun hc => ?_⟩
  have := h2 hc
  split at h1 <;> omega

example : Reachable { init with set := ["c"], okAdds := bump init.okAdds "c", conflicts := bump init.conflicts "c" } :=
  (Reachable.init.step (Step.addOk init "c" (by simp [init]))).step (Step.addConflict _ "c" (by simp))
end Children
end Specter.C18
