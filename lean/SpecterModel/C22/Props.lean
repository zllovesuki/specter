import SpecterModel.C22.Model
import SpecterModel.C21.Props
/-!
# C22 — The append-only log never opens with data no prefix could produce

Byte-level theorems about the segment framing (uvarint length prefix) and the entry check
(checksum, version), then the end-to-end statements: a lost tail (every truncation offset), a torn tail
(CRC detection of the torn variant is an explicit hypothesis — it cannot be a theorem), a lost or
zero-filled region in the middle.
-/
namespace Specter.Aof

theorem putUvarint_lt (x : Nat) (h : x < 128) : putUvarint x = [x] := by
  rw [putUvarint, if_pos h]

theorem putUvarint_ge (x : Nat) (h : ¬ x < 128) :
    putUvarint x = (x % 128 + 128) :: putUvarint (x / 128) := by
  rw [putUvarint, if_neg h]

theorem putUvarint_ne_nil (x : Nat) : putUvarint x ≠ [] := by
  fun_cases putUvarint x <;> exact List.cons_ne_nil _ _

/-- decoding reads back exactly the encoded value and length, whatever follows (all `x < 2^64`) -/
theorem uvarintAux_put (x : Nat) : ∀ (i : Nat) (rest : Bytes), i ≤ 9 → x < 2 ^ (64 - 7 * i) →
    uvarintAux i (putUvarint x ++ rest) = some (x, (putUvarint x).length) := by
  -- bounds by named `Nat` lemmas: `omega` is dear on the truncated `64 - 7 * i`
  induction x using putUvarint.induct with
  | case1 x h =>
    intro i rest hi hx
    -- the tenth byte carries one bit
    have h9 : ¬ (i = 9 ∧ x > 1) := fun ⟨hi9, hx1⟩ => by subst hi9; exact absurd hx (Nat.not_lt.2 hx1)
    rw [putUvarint_lt x h, List.singleton_append, uvarintAux, if_neg (Nat.ne_of_lt (Nat.lt_succ_of_le hi)),
      if_pos h, if_neg h9]
    rfl
  | case2 x h ih =>
    intro i rest hi hx
    -- a continuation byte at index 9 would need `128 ≤ x < 2 ^ 1`
    have hi8 : i ≤ 8 := Nat.le_of_lt_succ (Nat.lt_of_le_of_ne hi fun hi9 =>
      h (Nat.lt_trans (by subst hi9; exact hx) (by decide : 2 < 128)))
    have h7 : 7 ≤ 64 - 7 * i :=
      Nat.le_sub_of_add_le (Nat.le_succ_of_le (Nat.add_le_add_left (Nat.mul_le_mul_left 7 hi8) 7))
    have hx' : x / 128 < 2 ^ (64 - 7 * (i + 1)) := by
      rw [← Nat.sub_add_cancel h7, Nat.pow_add, Nat.mul_comm] at hx
      exact Nat.div_lt_of_lt_mul hx
    rw [putUvarint_ge x h, List.cons_append, uvarintAux, if_neg (Nat.ne_of_lt (Nat.lt_succ_of_le hi)),
      if_neg (Nat.not_lt.2 (Nat.le_add_left _ _)), ih (i + 1) rest (Nat.succ_le_succ hi8) hx']
    simp only [Nat.add_mod_right, Nat.mod_mod, Nat.mod_add_div, List.length_cons]

/-- prefix-freeness: a strict prefix of an encoded length is never a complete uvarint -/
theorem uvarintAux_take_none (x : Nat) : ∀ (i k : Nat) (rest : Bytes), k < (putUvarint x).length →
    uvarintAux i ((putUvarint x ++ rest).take k) = none := by
  induction x using putUvarint.induct with
  | case1 x h =>
    intro i k rest hk
    rw [putUvarint_lt x h] at hk
    rw [Nat.lt_one_iff.1 hk]; rfl
  | case2 x h ih =>
    intro i k rest hk
    rw [putUvarint_ge x h] at hk ⊢
    cases k with
    | zero => rfl
    | succ k =>
      rw [List.cons_append, List.take_succ_cons, uvarintAux, if_neg (Nat.not_lt.2 (Nat.le_add_left _ _)),
        ih (i + 1) k rest (Nat.lt_of_succ_lt_succ hk)]
      split <;> rfl

theorem uvarint_prefix_free (x k : Nat) (rest : Bytes) (hk : k < (putUvarint x).length) :
    uvarint ((putUvarint x ++ rest).take k) = none := uvarintAux_take_none x 0 k rest hk

theorem frame_length (p : Bytes) : (frame p).length = (putUvarint p.length).length + p.length :=
  List.length_append

theorem uvarint_frame (p rest : Bytes) (hp : p.length < 2 ^ 64) :
    uvarint (frame p ++ rest) = some (p.length, (putUvarint p.length).length) := by
  rw [frame, List.append_assoc]
  exact uvarintAux_put _ 0 _ (Nat.zero_le _) hp

theorem segBytes_cons (e : Bytes) (es : List Bytes) : segBytes (e :: es) = frame e ++ segBytes es :=
  List.flatMap_cons

theorem segBytes_append (a b : List Bytes) : segBytes (a ++ b) = segBytes a ++ segBytes b :=
  List.flatMap_append

theorem load_nil : load [] = some [] := by rw [load]; rfl

theorem load_put_append (n : Nat) (d : Bytes) (hn : n < 2 ^ 64) :
    load (putUvarint n ++ d) = if d.length < n then none else (load (d.drop n)).map (d.take n :: ·) := by
  have hne : putUvarint n ++ d ≠ [] := fun h => putUvarint_ne_nil n (List.append_eq_nil_iff.1 h).1
  have hlen : (putUvarint n).length ≠ 0 := fun h => putUvarint_ne_nil n (List.length_eq_zero_iff.1 h)
  rw [load, dif_neg hne, uvarint, uvarintAux_put n 0 d (Nat.zero_le _) hn]
  simp only [dif_neg hlen, List.length_append, Nat.add_sub_cancel_left, List.drop_length_add_append, List.drop_left]
  split
  · rfl
  · cases load (d.drop n) <;> rfl

theorem load_frame_append (p rest : Bytes) (hp : p.length < 2 ^ 64) :
    load (frame p ++ rest) = (load rest).map (p :: ·) := by
  rw [frame, List.append_assoc, load_put_append _ _ hp, if_neg (by simp), List.drop_left, List.take_left]

theorem load_segBytes_append (es : List Bytes) (g : Bytes) (hes : ∀ e ∈ es, e.length < 2 ^ 64) :
    load (segBytes es ++ g) = (load g).map (es ++ ·) := by
  induction es with
  | nil => show load g = _; cases load g <;> rfl
  | cons e es ih =>
    rw [segBytes_cons, List.append_assoc, load_frame_append e _ (hes e List.mem_cons_self),
      ih fun x hx => hes x (List.mem_cons_of_mem _ hx)]
    cases load g <;> rfl

/-- a written segment reads back as exactly its payloads -/
theorem load_segBytes (es : List Bytes) (hes : ∀ e ∈ es, e.length < 2 ^ 64) :
    load (segBytes es) = some es := by
  have := load_segBytes_append es [] hes
  rwa [List.append_nil, load_nil, Option.map_some, List.append_nil] at this

theorem load_cut_frame (p : Bytes) (hp : p.length < 2 ^ 64) (t : Nat) (h0 : t ≠ 0) (ht : t < (frame p).length) :
    load ((frame p).take t) = none := by
  rw [frame_length] at ht
  rw [frame]
  by_cases hk : t < (putUvarint p.length).length
  · -- inside the length prefix: no complete uvarint
    have hne : (putUvarint p.length ++ p).take t ≠ [] := fun h =>
      (List.take_eq_nil_iff.1 h).elim h0 fun h => putUvarint_ne_nil _ (List.append_eq_nil_iff.1 h).1
    rw [load, dif_neg hne, uvarint_prefix_free _ _ _ hk]
  · -- inside the payload: the announced length exceeds the rest of the file
    rw [List.take_append, List.take_of_length_le (Nat.le_of_not_lt hk), load_put_append _ _ hp, if_pos]
    rw [List.length_take]
    exact Nat.lt_of_le_of_lt (Nat.min_le_left _ _) (Nat.sub_lt_left_of_lt_add (Nat.le_of_not_lt hk) ht)

/-- **Truncation.** A segment cut at ANY byte offset is either rejected as corrupt or reads back as a
prefix of the written payloads — never anything else. -/
theorem truncation_prefix_or_corrupt (es : List Bytes) (hes : ∀ e ∈ es, e.length < 2 ^ 64) (t : Nat) :
    load ((segBytes es).take t) = none ∨ ∃ n, load ((segBytes es).take t) = some (es.take n) := by
  induction es generalizing t with
  | nil => exact .inr ⟨0, by rw [segBytes, List.flatMap_nil, List.take_nil]; exact load_nil⟩
  | cons e es ih =>
    have he := hes e List.mem_cons_self
    rw [segBytes_cons, List.take_append]
    by_cases hlt : t < (frame e).length
    · -- the cut falls into the first frame
      rw [Nat.sub_eq_zero_of_le (Nat.le_of_lt hlt), List.take_zero, List.append_nil]
      by_cases h0 : t = 0
      · exact .inr ⟨0, by rw [h0]; exact load_nil⟩
      · exact .inl (load_cut_frame e he t h0 hlt)
    · rw [List.take_of_length_le (Nat.le_of_not_lt hlt), load_frame_append e _ he]
      rcases ih (fun x hx => hes x (List.mem_cons_of_mem _ hx)) (t - (frame e).length) with h | ⟨n, h⟩
      · exact .inl (by rw [h]; rfl)
      · exact .inr ⟨n + 1, by rw [h]; rfl⟩

/-- cutting exactly at a frame boundary keeps exactly the frames before it -/
theorem truncation_at_boundary (es : List Bytes) (hes : ∀ e ∈ es, e.length < 2 ^ 64) (n : Nat) :
    load (segBytes (es.take n)) = some (es.take n) :=
  load_segBytes _ (fun e he => hes e (List.mem_of_mem_take he))

/-- whatever `decodeEntry` accepts carries a matching checksum and the known version -/
theorem accepted_entry_checksummed (c : Codec) (e : LogEntry) (m : Mutation)
    (h : decodeEntry c e = some m) : c.crc e.data = e.checksum ∧ e.version = logV1 := by
  revert h
  fun_cases decodeEntry c e
  case case2 h1 h2 => exact fun _ => ⟨(Decidable.not_not.mp h1).symm, h2⟩
  all_goals rintro ⟨⟩

theorem decodeAll_eq_some_iff (c : Codec) (ps : List Bytes) (ms : List Mutation) :
    decodeAll c ps = some ms ↔ ps.map (decodePayload c) = ms.map some := by
  induction ps generalizing ms with
  | nil => cases ms <;> simp [decodeAll]
  | cons p ps ih =>
    cases ms with
    | nil => cases hd : decodePayload c p <;> cases hr : decodeAll c ps <;> simp [decodeAll, hd, hr]
    | cons m ms =>
      rw [List.map_cons, List.map_cons, List.cons.injEq, ← ih, decodeAll]
      cases decodePayload c p <;> cases decodeAll c ps <;> simp

theorem decodeAll_take (c : Codec) (es : List Bytes) (ms : List Mutation) (h : decodeAll c es = some ms)
    (n : Nat) : decodeAll c (es.take n) = some (ms.take n) := by
  rw [decodeAll_eq_some_iff] at h ⊢
  rw [List.map_take, h, List.map_take]

theorem decodeAll_mem (c : Codec) (ps : List Bytes) (ns : List Mutation) (h : decodeAll c ps = some ns) :
    ∀ n ∈ ns, ∃ q ∈ ps, decodePayload c q = some n := by
  intro n hn
  have : some n ∈ ps.map (decodePayload c) := (decodeAll_eq_some_iff c ps ns).1 h ▸ List.mem_map_of_mem hn
  exact List.mem_map.1 this

theorem decodeAll_append (c : Codec) (a b : List Bytes) :
    decodeAll c (a ++ b) = (decodeAll c a).bind fun x => (decodeAll c b).map (x ++ ·) := by
  induction a with
  | nil => cases h : decodeAll c b <;> simp [decodeAll, h]
  | cons e a ih =>
    rw [List.cons_append, decodeAll, decodeAll, ih]
    cases decodePayload c e <;> cases decodeAll c a <;> cases decodeAll c b <;> rfl

theorem decodeAll_append_reject (c : Codec) (es : List Bytes) (q : Bytes) (qs : List Bytes)
    (hq : decodePayload c q = none) : decodeAll c (es ++ q :: qs) = none := by
  rw [decodeAll_append, decodeAll, hq]
  cases decodeAll c es <;> rfl

theorem decodeAll_reject_mem (c : Codec) (ps : List Bytes) (q : Bytes) (hq : q ∈ ps)
    (hrej : decodePayload c q = none) : decodeAll c ps = none := by
  obtain ⟨s, t, rfl⟩ := List.append_of_mem hq
  exact decodeAll_append_reject c s q t hrej

/-! ### which states a log prefix can produce -/

theorem submit_log_cases (pre : Bool) (s : Store) (mu : Mutation) :
    (submitG pre s mu).1.log = s.log ∨ (submitG pre s mu).1.log = s.log ++ [mu] := by
  rw [submitG_eq]
  cases handle s.mem mu with
  | ok m' => exact .inr rfl
  | error e => exact .inl rfl

theorem runHist_log_prefix (hist : List Mutation) : ∀ s : Store, s.log <+: (runHist s hist).log := by
  induction hist with
  | nil => exact fun s => List.prefix_rfl
  | cons mu rest ih =>
    intro s
    refine List.IsPrefix.trans ?_ (ih (submit s mu).1)
    rcases submit_log_cases true s mu with h | h <;> rw [submit, h]
    · exact List.prefix_rfl
    · exact List.prefix_append _ _

theorem log_take_is_hist_prefix (hist : List Mutation) : ∀ (s : Store) (n : Nat), s.log.length ≤ n →
    ∃ p, p ≤ hist.length ∧ (runHist s (hist.take p)).log = (runHist s hist).log.take n := by
  induction hist with
  | nil => intro s n hn; exact ⟨0, Nat.le_refl _, (List.take_of_length_le hn).symm⟩
  | cons mu rest ih =>
    intro s n hn
    rcases Nat.eq_or_lt_of_le hn with rfl | hlt
    · exact ⟨0, Nat.zero_le _, List.prefix_iff_eq_take.1 (runHist_log_prefix _ s)⟩
    · -- one iteration adds at most one entry, so the log stays within `n`
      have hn' : (submit s mu).1.log.length ≤ n := by
        rcases submit_log_cases true s mu with h | h <;> rw [submit, h]
        · exact hn
        · rw [List.length_append]; exact hlt
      obtain ⟨p, hp, h⟩ := ih _ n hn'
      exact ⟨p + 1, Nat.succ_le_succ hp, h⟩

theorem prefix_log_state (hist : List Mutation) (n : Nat) :
    ∃ p, p ≤ hist.length ∧
      replay ((runHist Store.init hist).log.take n) = .ok (specState Mem.empty (hist.take p)) := by
  obtain ⟨p, hp, h⟩ := log_take_is_hist_prefix hist Store.init n (Nat.zero_le _)
  exact ⟨p, hp, by rw [← h, (replay_inv (hist.take p)).1, mem_is_spec]⟩

/-- what the property allows after a lost / torn tail: an error, or the reference state of a prefix
of the (acknowledged) history -/
def ErrorOrPrefixState (hist : List Mutation) (r : Option Store) : Prop :=
  r = none ∨ ∃ st p, r = some st ∧ p ≤ hist.length ∧ st.mem = specState Mem.empty (hist.take p)

theorem prefixState_of_replay {c : Codec} {hist : List Mutation} {seg : Bytes} {ps : List Bytes}
    {mus : List Mutation} {p : Nat} (hl : load seg = some ps) (hd : decodeAll c ps = some mus)
    (hp : p ≤ hist.length) (hr : replay mus = .ok (specState Mem.empty (hist.take p))) :
    ErrorOrPrefixState hist (reopenBytes c seg) := by
  refine .inr ⟨⟨mus, specState Mem.empty (hist.take p), mus.length + 1⟩, p, ?_, hp, rfl⟩
  simp only [reopenBytes, hl, hd, reopenLog_of_replay hr]

/-- **C22, lost tail.** `es` are the payloads the store wrote for `hist` (the codec reads them back as
the logged mutations). If the file is cut at ANY byte offset `t`, `aof.New` fails or yields the state
of a prefix of the history — never data no prefix produces. -/
theorem lost_tail_prefix_state (c : Codec) (hist : List Mutation) (es : List Bytes)
    (hes : ∀ e ∈ es, e.length < 2 ^ 64)
    (hcodec : decodeAll c es = some (runHist Store.init hist).log) (t : Nat) :
    ErrorOrPrefixState hist (reopenBytes c ((segBytes es).take t)) := by
  rcases truncation_prefix_or_corrupt es hes t with h | ⟨n, h⟩
  · exact .inl (by rw [reopenBytes, h])
  · obtain ⟨p, hp, hrep⟩ := prefix_log_state hist n
    exact prefixState_of_replay h (decodeAll_take c es _ hcodec n) hp hrep

/-- a mutation whose type no `handleMutation` case matches: replaying it changes nothing -/
def Noop (m : Mutation) : Prop := ∀ mem, handle mem m = .ok mem

theorem noop_zero : Noop {} := fun mem => handle_other mem {} (by decide) (by decide) (by decide) (by decide)
  (by decide) (by decide)

theorem replay_noops (m : Mem) (ns : List Mutation) (h : ∀ n ∈ ns, Noop n) :
    replayG true {} m ns = .ok m := by
  induction ns with
  | nil => rfl
  | cons n ns ih =>
    rw [replayG_reset_cons, h n List.mem_cons_self]
    exact ih fun x hx => h x (List.mem_cons_of_mem _ hx)

/-- what a torn region may contain without harm: every payload the framing cuts out of it is either
rejected by `decodeEntry` / the parsers, or decodes to a no-op mutation -/
def TornHarmless (c : Codec) (g : Bytes) : Prop :=
  ∀ ps, load g = some ps → ∀ q ∈ ps, ∀ m, decodePayload c q = some m → Noop m

/-- the CRC hypothesis: every payload cut out of the torn region that still parses as a version-1 entry
WITH data fails the checksum comparison (CRC-64 detects the damage). An entry without data has
checksum 0 = crc(empty) and passes, but carries the zero mutation. -/
def TornDetected (c : Codec) (g : Bytes) : Prop :=
  ∀ ps, load g = some ps → ∀ q ∈ ps, ∀ e, c.parseEntry q = some e → e.version = logV1 → e.data ≠ [] →
    c.crc e.data ≠ e.checksum

theorem torn_detected_harmless (c : Codec) (g : Bytes) (hempty : ∀ m, c.parseMut [] = some m → m = {})
    (h : TornDetected c g) : TornHarmless c g := by
  intro ps hps q hq m
  fun_cases decodePayload c q
  -- the payload does not parse
  case case2 => rintro ⟨⟩
  case case1 e he =>
    fun_cases decodeEntry c e
    -- checksum and version accepted
    case case2 h1 h2 =>
      intro hm
      by_cases hd : e.data = []
      · -- an entry without data carries the zero mutation
        rw [hd] at hm
        rw [hempty m hm]
        exact noop_zero
      · exact absurd (Decidable.not_not.mp h1).symm (h ps hps q hq e he h2 hd)
    all_goals rintro ⟨⟩

/-- **C22, torn tail.** The first `k` frames are intact and are followed by arbitrary bytes `g` (a torn
write of the remaining entries: partly written, zero-filled, garbage). Provided whatever the framing
cuts out of `g` is rejected or a no-op (`TornHarmless`; it follows from CRC detection, see
`torn_detected_harmless`), `aof.New` fails or yields the state of a prefix of the history. -/
theorem torn_tail_safe (c : Codec) (hist : List Mutation) (es : List Bytes)
    (hes : ∀ e ∈ es, e.length < 2 ^ 64)
    (hcodec : decodeAll c es = some (runHist Store.init hist).log) (k : Nat) (g : Bytes)
    (hg : TornHarmless c g) :
    ErrorOrPrefixState hist (reopenBytes c (segBytes (es.take k) ++ g)) := by
  have hl := load_segBytes_append (es.take k) g (fun e he => hes e (List.mem_of_mem_take he))
  have hda := decodeAll_append c (es.take k)
  rw [decodeAll_take c es _ hcodec k] at hda
  cases hlg : load g with
  | none => exact .inl (by rw [reopenBytes, hl, hlg]; rfl)
  | some ps =>
    rw [hlg] at hl
    cases hdp : decodeAll c ps with
    | none => exact .inl (by simp only [reopenBytes, hl, Option.map_some, hda, hdp]; rfl)
    | some ns =>
      -- the log decoded behind the intact frames consists of no-ops
      have hno : ∀ n ∈ ns, Noop n := fun n hn => by
        obtain ⟨q, hq, hdq⟩ := decodeAll_mem c ps ns hdp n hn
        exact hg ps hlg q hq n hdq
      obtain ⟨p, hp, hrep⟩ := prefix_log_state hist k
      refine prefixState_of_replay hl (by rw [hda, hdp]; rfl) hp ?_
      unfold replay at hrep ⊢
      rw [replayG_reset_append, hrep]
      exact replay_noops _ ns hno

/-- the same with the CRC hypothesis spelled out -/
theorem torn_tail_safe_crc (c : Codec) (hist : List Mutation) (es : List Bytes)
    (hes : ∀ e ∈ es, e.length < 2 ^ 64)
    (hcodec : decodeAll c es = some (runHist Store.init hist).log) (k : Nat) (g : Bytes)
    (hempty : ∀ m, c.parseMut [] = some m → m = {}) (hcrc : TornDetected c g) :
    ErrorOrPrefixState hist (reopenBytes c (segBytes (es.take k) ++ g)) :=
  torn_tail_safe c hist es hes hcodec k g (torn_detected_harmless c g hempty hcrc)

theorem reopenBytes_reject (c : Codec) (ps : List Bytes) (hps : ∀ e ∈ ps, e.length < 2 ^ 64)
    (q : Bytes) (hq : q ∈ ps) (hrej : decodePayload c q = none) : reopenBytes c (segBytes ps) = none := by
  rw [reopenBytes, load_segBytes ps hps]
  simp only [decodeAll_reject_mem c ps q hq hrej]

/-- **C22, entry lost in the middle.** The frames `a` before and `b` after a damaged region are intact (the
pages holding them reached the disk, the ones in between did not). If the region is cut into frames `zs` of
which at least one is rejected by `decodeEntry`, `aof.New` fails: the later entries are never replayed on
top of a hole. -/
theorem lost_middle_rejected (c : Codec) (a zs b : List Bytes)
    (ha : ∀ e ∈ a, e.length < 2 ^ 64) (hz : ∀ e ∈ zs, e.length < 2 ^ 64) (hb : ∀ e ∈ b, e.length < 2 ^ 64)
    (q : Bytes) (hq : q ∈ zs) (hrej : decodePayload c q = none) :
    reopenBytes c (segBytes a ++ segBytes zs ++ segBytes b) = none := by
  rw [← segBytes_append, ← segBytes_append]
  exact reopenBytes_reject c _ (List.forall_mem_append.2 ⟨List.forall_mem_append.2 ⟨ha, hz⟩, hb⟩) q
    (List.mem_append_left _ (List.mem_append_right _ hq)) hrej

theorem segBytes_replicate_nil (n : Nat) : segBytes (List.replicate n []) = List.replicate n 0 := by
  induction n with
  | zero => rfl
  | succ n ih =>
    rw [List.replicate_succ, segBytes_cons, ih, frame, List.length_nil, putUvarint_lt 0 (by decide)]
    rfl

/-- **C22, zero-filled hole.** One or more whole entries read back as `n > 0` zero bytes while the entries
after them are intact: every zero byte is an empty frame, and as long as `decodeEntry` rejects the empty
payload (version 0 is not V1) the open fails. -/
theorem zero_hole_rejected (c : Codec) (a b : List Bytes)
    (ha : ∀ e ∈ a, e.length < 2 ^ 64) (hb : ∀ e ∈ b, e.length < 2 ^ 64)
    (hempty : decodePayload c [] = none) (n : Nat) (hn : 0 < n) :
    reopenBytes c (segBytes a ++ List.replicate n 0 ++ segBytes b) = none := by
  rw [← segBytes_replicate_nil]
  refine lost_middle_rejected c a (List.replicate n []) b ha ?_ hb [] ?_ hempty
  · intro e he; rw [List.eq_of_mem_replicate he]; decide
  · exact List.mem_replicate.2 ⟨Nat.ne_of_gt hn, rfl⟩

/-- the executable codec of the correspondence driver (protobuf `LogEntry` parse, CRC-64, version switch)
rejects the empty payload, whatever the mutation table -/
theorem tableCodec_rejects_empty (t : List (Bytes × Mutation)) : decodePayload (tableCodec t) [] = none :=
  rfl

/-! ### Non-vacuity -/

/-- a toy codec: payload = version, checksum, then the data; data = key bytes of a Put -/
def toyCodec : Codec where
  parseEntry p := match p with
    | v :: ck :: d => some { version := v, data := d, checksum := ck }
    | _ => none
  crc d := d.sum % 251
  parseMut d := if d = [] then some {} else some { type := tPut, key := d, value := [1] }

def toyHist : List Mutation :=
  [{ type := tPut, key := [5, 6], value := [1] }, { type := tPut, key := [7], value := [1] }]

def toyPayloads : List Bytes := [[1, 11, 5, 6], [1, 7, 7]]

example : decodeAll toyCodec toyPayloads = some (runHist Store.init toyHist).log := by decide +kernel
example : ∀ e ∈ toyPayloads, e.length < 2 ^ 64 := by decide +kernel
example : segBytes toyPayloads = [4, 1, 11, 5, 6, 3, 1, 7, 7] := by decide +kernel
-- a cut inside a frame is rejected, a complete frame is read
example : load [3, 1] = none := by decide +kernel
example : load [1, 9] = some [[9]] := by decide +kernel
-- the all-zero torn tail: every zero byte is an empty frame, an empty entry has version 0 ≠ V1
example : TornDetected toyCodec [0, 0] := by
  intro ps hps q hq e he hv _
  rw [show load [0, 0] = some [[], []] by decide +kernel] at hps
  cases hps
  simp at hq; subst hq
  simp [toyCodec] at he
example : putUvarint 300 = [172, 2] ∧ uvarint [172, 2, 9] = some (300, 2) ∧ uvarint [172] = none := by
  decide +kernel

end Specter.Aof
