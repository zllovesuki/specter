import SpecterModel.C08.Locks
import SpecterModel.C08.GenLocks
/-!
# C08 — the lock order of `LocalNode`, as extracted from the code, is acyclic

`Gen.C08.edges` (regenerated from `/repo/chord/*.go` on every run of the check) lists every place where a function
of package chord takes one of `LocalNode`'s mutexes while it holds another one. The obligation
`chord_lock_order_acyclic` (by `decide`, re-checked against the regenerated text) is the executable rank check of
`Locks.lean`; with it the generic theorems give, for any number of goroutines that follow the extracted edges:
no wait cycle is ever reached (`chord_no_lock_deadlock`) and blocked goroutines never all wait on each other
(`chord_lock_progress`) — so a join request is not left unanswered because of the node's own mutexes.
-/
namespace Specter.C08.Locks

def chordEdges : Edges := Gen.C08.edges.map (fun e => (e.1, e.2.1))

def chordLocks : Nat := Gen.C08.mutexes.length

/-- Names the cycle in the build output when the order is broken (the `decide` below then fails as well). -/
def lockOrderCycle : Option String :=
  (findCycle Gen.C08.edges).map (describeCycle Gen.C08.mutexes)

#eval show IO Unit from
  match lockOrderCycle with
  | none => pure ()
  | some c => throw (IO.userError s!"lock-order cycle among the mutexes of LocalNode: {c}")

/-- **Obligation (re-checked against the regenerated edges).** The lock-order edges of package chord admit a rank
function: every edge goes from a lower to a higher rank. -/
theorem chord_lock_order_acyclic : acyclicCheck chordEdges chordLocks = true := by decide +kernel

/-- No schedule of any number of goroutines that take `LocalNode`'s mutexes in the extracted order reaches a
wait cycle. -/
theorem chord_no_lock_deadlock (n : Nat) (s : State) (h : Reachable chordEdges n s) : ¬ Deadlock s :=
  no_deadlock_of_check chordEdges chordLocks chord_lock_order_acyclic n s h

/-- … and whenever some goroutine is blocked on one of the mutexes, one of them can take its lock or a running
holder can release one. -/
theorem chord_lock_progress (n : Nat) (s : State) (h : Reachable chordEdges n s)
    (hw : ∃ th ∈ s, th.want ≠ none) : ∃ a s', a.isProgress = true ∧ step chordEdges s a = some s' :=
  progress_of_check chordEdges chordLocks chord_lock_order_acyclic n s h hw

/-! ## non-vacuity -/

/-- the shape of `Gen.C08.edges` for the current source, fixed here so that the examples do not depend on the
generated text: predecessorMu = 0, surrogateMu = 1, successorsMu = 2; surrogateMu → predecessorMu → successorsMu
(RequestToJoin, kvMiddleware) -/
def todayEdges : Edges := [(1, 0), (1, 2), (0, 2), (1, 0)]

example : acyclicCheck todayEdges 3 = true := by decide +kernel
/-- ranks: surrogateMu 0 < predecessorMu 1 < successorsMu 2 -/
example : ranks todayEdges 3 = [1, 0, 2] := by decide +kernel

/-- the discipline is not empty: the join hand-off (takes 1, then 0, then 2, releases all) and a concurrent
stabilize (takes 2, releases it) run to completion, stabilize being blocked in between -/
example : run todayEdges (init 2)
    [.request 0 1, .acquire 0, .request 0 0, .acquire 0, .request 1 2, .acquire 1, .request 0 2,
     .release 1 2, .acquire 0, .release 0 2, .release 0 0, .release 0 1] = some [{}, {}] := by decide +kernel

/-- the hypotheses of `chord_lock_progress` are satisfiable: a reachable state with a blocked thread -/
example : ∃ s, Reachable todayEdges 2 s ∧ ∃ th ∈ s, th.want ≠ none :=
  ⟨[{ held := [0, 1], want := some 2 }, { held := [2] }],
   ⟨[.request 0 1, .acquire 0, .request 0 0, .acquire 0, .request 1 2, .acquire 1, .request 0 2], by decide +kernel⟩,
   { held := [0, 1], want := some 2 }, by simp, by simp⟩

/-- an inverted order: a maintenance task that takes predecessorMu (0) while holding successorsMu (2) -/
def invertedEdges : Edges := todayEdges ++ [(2, 0)]

example : acyclicCheck invertedEdges 3 = false := by decide +kernel
example : findCycle [(1, 0, "RequestToJoin"), (0, 2, "RequestToJoin>getSuccessors"), (2, 0, "stabilize")] =
    some [(0, 2, "RequestToJoin>getSuccessors"), (2, 0, "stabilize")] := by decide +kernel

/-- **The obligation is not vacuous**: with the inverted edge the model does reach a deadlock — the join request
(thread 0) holds surrogateMu and predecessorMu and waits for successorsMu, the task (thread 1) holds successorsMu
and waits for predecessorMu; by `deadlock_permanent` neither ever runs again. -/
theorem inverted_order_deadlocks : ∃ s, Reachable invertedEdges 2 s ∧ Deadlock s := by
  refine ⟨[{ held := [0, 1], want := some 2 }, { held := [2], want := some 0 }],
    ⟨[.request 0 1, .acquire 0, .request 0 0, .acquire 0, .request 1 2, .acquire 1, .request 1 0, .request 0 2],
      by decide +kernel⟩, 0, [1], ?_, ?_, trivial⟩
  · exact ⟨_, _, 2, rfl, rfl, rfl, by simp⟩
  · exact ⟨_, _, 0, rfl, rfl, rfl, by simp⟩

end Specter.C08.Locks
