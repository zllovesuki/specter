/-!
# C08 — a lock order excludes deadlock (and a wedged join request)

`LocalNode` guards its neighbour pointers with several mutexes (`surrogateMu`, `predecessorMu`, `successorsMu`).
A join request that is never answered violates C08 just like a panic does; the one way the node's own code can
wedge it is a lock-order inversion between two of its goroutines (e.g. `RequestToJoin`, which holds
`predecessorMu` through the hand-off and then reads the successor list, against a maintenance task).

This file is the generic half: a small-step model of any number of threads that take and release locks from a
finite set, where a thread requests lock `b` while holding `a` only if `(a, b)` is an edge of a given relation `E`
(the relation extracted from the code: `GenLocks.lean`). If `E` admits a rank function (`rank a < rank b` for every
edge), then in every reachable state, for every number of threads and every schedule, a blocked thread waits for a
lock ranked above all it holds (`Ordered`). Hence no cycle of threads each blocked on a lock held by the next
(`no_deadlock_of_rank`), and while some thread is blocked some thread can take its lock or release one
(`progress_of_rank`). What is excluded is real: a wait cycle, once there, never dissolves (`deadlock_permanent`).
`acyclicCheck` is the executable test for a rank function (longest-path ranks by `n` rounds of edge relaxation);
`LocksProps.lean` runs it on the generated edges.

RLock is read as Lock (exclusive): sound for ordering, because a `sync.RWMutex` with a waiting writer blocks new
readers. Locks are natural numbers (indices into the generated list of mutex names).
-/
namespace Specter.C08.Locks

/-- one thread: the locks it holds and the lock it is blocked on (inside `Lock()`), if any -/
structure Thr where
  held : List Nat := []
  want : Option Nat := none
deriving Repr, DecidableEq

/-- the threads, addressed by position -/
abbrev State := List Thr

def init (n : Nat) : State := List.replicate n {}

inductive Act where
  /-- thread `t` calls `Lock` on `b`: from now on it is blocked on `b` -/
  | request (t b : Nat)
  /-- the lock `t` is blocked on is free: `t` gets it and runs on -/
  | acquire (t : Nat)
  /-- thread `t`, not blocked, unlocks `a` -/
  | release (t a : Nat)
deriving Repr, DecidableEq

/-- lock-order edges `(held, acquired)` -/
abbrev Edges := List (Nat × Nat)

def isFree (s : State) (b : Nat) : Bool := s.all (fun th => !th.held.contains b)

/-- the discipline: `b` may be requested only if every held lock has an edge to it -/
def allowed (E : Edges) (held : List Nat) (b : Nat) : Bool := held.all (fun a => E.contains (a, b))

def step (E : Edges) (s : State) : Act → Option State
  | .request t b =>
    match s[t]? with
    | some th =>
      if th.want.isNone && allowed E th.held b then some (s.set t { th with want := some b }) else none
    | none => none
  | .acquire t =>
    match s[t]? with
    | some th =>
      match th.want with
      | some b => if isFree s b then some (s.set t { held := b :: th.held, want := none }) else none
      | none => none
    | none => none
  | .release t a =>
    match s[t]? with
    | some th =>
      if th.want.isNone && th.held.contains a then some (s.set t { th with held := th.held.erase a }) else none
    | none => none

def run (E : Edges) : State → List Act → Option State
  | s, [] => some s
  | s, a :: as =>
    match step E s a with
    | some s' => run E s' as
    | none => none

def Reachable (E : Edges) (n : Nat) (s : State) : Prop := ∃ acts, run E (init n) acts = some s

def WaitsFor (s : State) (t u : Nat) : Prop :=
  ∃ th tu b, s[t]? = some th ∧ s[u]? = some tu ∧ th.want = some b ∧ b ∈ tu.held

def Chain (R : Nat → Nat → Prop) : List Nat → Prop
  | a :: b :: r => R a b ∧ Chain R (b :: r)
  | _ => True

/-- **deadlock**: threads `t, m₁, …, m_k, t` (`k ≥ 0`), each blocked on a lock held by the next -/
def Deadlock (s : State) : Prop := ∃ t mid, Chain (WaitsFor s) (t :: (mid ++ [t]))

theorem step_cases (E : Edges) (s s' : State) (a : Act) (hs : step E s a = some s') :
    ∃ t th th', s[t]? = some th ∧ s' = s.set t th' ∧
      ((∃ b, th.want = none ∧ allowed E th.held b = true ∧ th' = { th with want := some b }) ∨
       (∃ b, th.want = some b ∧ isFree s b = true ∧ th' = { held := b :: th.held, want := none }) ∨
       (∃ c, th.want = none ∧ th' = { th with held := th.held.erase c })) := by
  revert hs
  fun_cases step E s a
  case case1 t b th hth h => -- request
    rintro ⟨⟩
    rw [Bool.and_eq_true, Option.isNone_iff_eq_none] at h
    exact ⟨t, th, _, hth, rfl, Or.inl ⟨b, h.1, h.2, rfl⟩⟩
  case case4 t th hth b hb hfree => -- acquire
    rintro ⟨⟩
    exact ⟨t, th, _, hth, rfl, Or.inr (Or.inl ⟨b, hb, hfree, rfl⟩)⟩
  case case8 t c th hth h => -- release
    rintro ⟨⟩
    rw [Bool.and_eq_true, Option.isNone_iff_eq_none] at h
    exact ⟨t, th, _, hth, rfl, Or.inr (Or.inr ⟨c, h.1, rfl⟩)⟩
  -- the other branches refuse
  all_goals rintro ⟨⟩

theorem run_preserves (E : Edges) (P : State → Prop) (hP : ∀ s s' a, step E s a = some s' → P s → P s') :
    ∀ (acts : List Act) (s s' : State), run E s acts = some s' → P s → P s' := by
  intro acts s s'
  fun_induction run E s acts
  · rintro ⟨⟩ hs -- empty schedule
    exact hs
  · rename_i hs1 ih -- the step is taken
    exact fun h hs => ih h (hP _ _ _ hs1 hs)
  · rintro ⟨⟩ -- the step is refused

/-! ## the invariant: a blocked thread waits for a lock ranked above everything it holds -/

def Ordered (rank : Nat → Nat) (s : State) : Prop :=
  ∀ th ∈ s, ∀ b, th.want = some b → ∀ a ∈ th.held, rank a < rank b

theorem ordered_init (rank : Nat → Nat) (n : Nat) : Ordered rank (init n) := by
  intro th hth b hb
  have : th = {} := List.eq_of_mem_replicate hth
  subst this
  simp at hb

theorem step_ordered (E : Edges) (rank : Nat → Nat) (hr : ∀ e ∈ E, rank e.1 < rank e.2)
    (s s' : State) (a : Act) (hs : step E s a = some s') (ho : Ordered rank s) : Ordered rank s' := by
  obtain ⟨t, th, th', _, rfl, hth'⟩ := step_cases E s s' a hs
  intro x hx b' hb' c hc
  rcases List.mem_or_eq_of_mem_set hx with h | rfl
  · exact ho x h b' hb' c hc
  · -- only a request leaves the thread blocked, and it asked for a lock above all it holds
    rcases hth' with ⟨b, _, hall, rfl⟩ | ⟨_, _, _, rfl⟩ | ⟨_, hw, rfl⟩
    · rw [← Option.some.inj hb']
      have hmem : (c, b) ∈ E := by simpa using List.all_eq_true.mp hall c hc
      exact hr (c, b) hmem
    · cases hb'
    · rw [hw] at hb'; cases hb'

theorem reachable_ordered (E : Edges) (rank : Nat → Nat) (hr : ∀ e ∈ E, rank e.1 < rank e.2)
    (n : Nat) (s : State) (h : Reachable E n s) : Ordered rank s := by
  obtain ⟨acts, h⟩ := h
  exact run_preserves E (Ordered rank) (step_ordered E rank hr) acts (init n) s h (ordered_init rank n)

def Stuck (s : State) (t : Nat) : Prop := ∃ u, WaitsFor s t u

theorem chain_head (R : Nat → Nat → Prop) (a x : Nat) (l : List Nat) (h : Chain R (a :: x :: l)) : R a x := h.1

theorem chain_stuck (s : State) (t z : Nat) (mid : List Nat) (h : Chain (WaitsFor s) (t :: (mid ++ [z]))) :
    Stuck s t := by
  cases mid with
  | nil => exact ⟨z, h.1⟩
  | cons x r => exact ⟨x, h.1⟩

def wantRank (rank : Nat → Nat) (s : State) (t : Nat) : Nat :=
  match s[t]? with
  | some th => match th.want with
    | some b => rank b
    | none => 0
  | none => 0

/-- along a wait chain the rank of the wanted lock strictly increases: why a ranked order has no wait cycle -/
theorem waits_rank_lt (rank : Nat → Nat) (s : State) (ho : Ordered rank s) (t u : Nat)
    (h1 : WaitsFor s t u) (h2 : Stuck s u) : wantRank rank s t < wantRank rank s u := by
  obtain ⟨th, tu, b, ht, hu, hb, hmem⟩ := h1
  obtain ⟨_, tu', _, b', hu', _, hb', _⟩ := h2
  rw [hu] at hu'
  cases hu'
  simp only [wantRank, ht, hb, hu, hb']
  exact ho tu (List.mem_of_getElem? hu) b' hb' b hmem

theorem chain_rank_lt (rank : Nat → Nat) (s : State) (ho : Ordered rank s) (z : Nat) (hz : Stuck s z) :
    ∀ (mid : List Nat) (t : Nat), Chain (WaitsFor s) (t :: (mid ++ [z])) → wantRank rank s t < wantRank rank s z := by
  intro mid
  induction mid with
  | nil => intro t h; exact waits_rank_lt rank s ho t z h.1 hz
  | cons m mid ih =>
    intro t h
    exact Nat.lt_trans (waits_rank_lt rank s ho t m h.1 (chain_stuck s m z mid h.2)) (ih m h.2)

theorem ordered_no_deadlock (rank : Nat → Nat) (s : State) (ho : Ordered rank s) : ¬ Deadlock s := by
  intro ⟨t, mid, h⟩
  exact Nat.lt_irrefl _ (chain_rank_lt rank s ho t (chain_stuck s t t mid h) mid t h)

/-- **No deadlock under a ranked lock order**: for every number of threads and every schedule that respects
the edges `E`, no reachable state contains a cycle of threads each blocked on a lock held by the next. -/
theorem no_deadlock_of_rank (E : Edges) (rank : Nat → Nat) (hr : ∀ e ∈ E, rank e.1 < rank e.2)
    (n : Nat) (s : State) (h : Reachable E n s) : ¬ Deadlock s :=
  ordered_no_deadlock rank s (reachable_ordered E rank hr n s h)

/-- a step that is not a new request -/
def Act.isProgress : Act → Bool
  | .request _ _ => false
  | _ => true

theorem ordered_progress (E : Edges) (rank : Nat → Nat) (s : State) (ho : Ordered rank s)
    (hw : ∃ th ∈ s, th.want ≠ none) : ∃ a s', a.isProgress = true ∧ step E s a = some s' := by
  -- `b`: a lock of the highest rank that anybody waits for
  obtain ⟨w, hws, hwant⟩ := hw
  obtain ⟨bw, hbw⟩ := Option.ne_none_iff_exists'.mp hwant
  have hne : s.filterMap (·.want) ≠ [] := List.ne_nil_of_mem (List.mem_filterMap.mpr ⟨w, hws, hbw⟩)
  obtain ⟨b, hbmem, hmax⟩ : ∃ b ∈ s.filterMap (·.want), ∀ y ∈ s.filterMap (·.want), rank y ≤ rank b :=
    ⟨_, List.maxOn_mem (h := hne), fun _ hy => List.le_apply_maxOn_of_mem hy⟩
  obtain ⟨th, hth, hb⟩ := List.mem_filterMap.mp hbmem
  obtain ⟨t, ht⟩ := List.getElem?_of_mem hth
  cases hfree : isFree s b with
  | true =>
    exact ⟨.acquire t, s.set t { held := b :: th.held, want := none }, rfl, by simp [step, ht, hb, hfree]⟩
  | false =>
    -- somebody holds b; that thread cannot be blocked (it would want a lock of higher rank than the maximum)
    simp only [isFree, List.all_eq_false] at hfree
    obtain ⟨tu, htu, hc⟩ := hfree
    have hheld : b ∈ tu.held := by simpa using hc
    obtain ⟨u, hu⟩ := List.getElem?_of_mem htu
    cases hb' : tu.want with
    | some b' =>
      exact absurd (ho tu htu b' hb' b hheld)
        (Nat.not_lt_of_le (hmax b' (List.mem_filterMap.mpr ⟨tu, htu, hb'⟩)))
    | none =>
      exact ⟨.release u b, s.set u { tu with held := tu.held.erase b }, rfl, by simp [step, hu, hb', hheld]⟩

/-- **Progress under a ranked lock order**: in every reachable state in which some thread is blocked, some
thread can take a step that is not a new request — the blocked threads are never all waiting on each other. -/
theorem progress_of_rank (E : Edges) (rank : Nat → Nat) (hr : ∀ e ∈ E, rank e.1 < rank e.2)
    (n : Nat) (s : State) (h : Reachable E n s) (hw : ∃ th ∈ s, th.want ≠ none) :
    ∃ a s', a.isProgress = true ∧ step E s a = some s' :=
  ordered_progress E rank s (reachable_ordered E rank hr n s h) hw

theorem step_frame (E : Edges) (s s' : State) (a : Act) (hs : step E s a = some s') :
    ∃ x, ¬ Stuck s x ∧ ∀ t, t ≠ x → s'[t]? = s[t]? := by
  obtain ⟨x, th, th', hth, rfl, hth'⟩ := step_cases E s s' a hs
  refine ⟨x, ?_, fun t ht => List.getElem?_set_ne (Ne.symm ht)⟩
  intro ⟨u, th0, tu, b0, h0, hu, hb0, hmem⟩
  rw [hth] at h0
  cases h0
  rcases hth' with ⟨_, hw, _, _⟩ | ⟨b, hb, hfree, _⟩ | ⟨_, hw, _⟩
  · rw [hw] at hb0; cases hb0
  · -- the lock it gets is free: nobody holds it
    rw [hb] at hb0
    cases hb0
    have := List.all_eq_true.mp hfree tu (List.mem_of_getElem? hu)
    simp [hmem] at this
  · rw [hw] at hb0; cases hb0

theorem waitsFor_step (E : Edges) (s s' : State) (a : Act) (hs : step E s a = some s') (t u : Nat)
    (h : WaitsFor s t u) (hu : Stuck s u) : WaitsFor s' t u := by
  obtain ⟨x, hx, hframe⟩ := step_frame E s s' a hs
  have ht : t ≠ x := fun e => hx (e ▸ ⟨u, h⟩)
  have hu' : u ≠ x := fun e => hx (e ▸ hu)
  obtain ⟨th, tu, b, h1, h2, h3, h4⟩ := h
  exact ⟨th, tu, b, (hframe t ht).trans h1, (hframe u hu').trans h2, h3, h4⟩

theorem chain_step (E : Edges) (s s' : State) (a : Act) (hs : step E s a = some s') (z : Nat) (hz : Stuck s z) :
    ∀ (mid : List Nat) (t : Nat), Chain (WaitsFor s) (t :: (mid ++ [z])) → Chain (WaitsFor s') (t :: (mid ++ [z])) := by
  intro mid
  induction mid with
  | nil => intro t h; exact ⟨waitsFor_step E s s' a hs t z h.1 hz, trivial⟩
  | cons m mid ih =>
    intro t h
    exact ⟨waitsFor_step E s s' a hs t m h.1 (chain_stuck s m z mid h.2), ih m h.2⟩

/-- **A deadlock is for ever**: once a wait cycle exists, no step of any thread dissolves it (the threads of the
cycle cannot move, and nobody else's step gives them their lock) — every thread of the cycle waits for ever,
which for a join request means: never answered. -/
theorem deadlock_permanent (E : Edges) (s s' : State) (a : Act) (hs : step E s a = some s')
    (h : Deadlock s) : Deadlock s' := by
  obtain ⟨t, mid, h⟩ := h
  exact ⟨t, mid, chain_step E s s' a hs t (chain_stuck s t t mid h) mid t h⟩

theorem deadlock_permanent_run (E : Edges) : ∀ (acts : List Act) (s s' : State),
    run E s acts = some s' → Deadlock s → Deadlock s' :=
  run_preserves E Deadlock (deadlock_permanent E)

/-- one round: every edge pushes the rank of its target above the rank of its source -/
def relax (E : Edges) (r : List Nat) : List Nat :=
  E.foldl (fun r e => if r.getD e.2 0 ≤ r.getD e.1 0 then r.set e.2 (r.getD e.1 0 + 1) else r) r

def iter (f : List Nat → List Nat) : Nat → List Nat → List Nat
  | 0, r => r
  | k + 1, r => iter f k (f r)

/-- longest-path ranks of the `n` locks after `n` rounds (exact when `E` is acyclic) -/
def ranks (E : Edges) (n : Nat) : List Nat := iter (relax E) n (List.replicate n 0)

def rankFn (E : Edges) (n : Nat) (v : Nat) : Nat := (ranks E n).getD v 0

def acyclicCheck (E : Edges) (n : Nat) : Bool :=
  E.all (fun e => e.1 < n && e.2 < n && rankFn E n e.1 < rankFn E n e.2)

theorem acyclicCheck_sound (E : Edges) (n : Nat) (h : acyclicCheck E n = true) :
    ∀ e ∈ E, rankFn E n e.1 < rankFn E n e.2 := by
  intro e he
  simp only [acyclicCheck, List.all_eq_true] at h
  have := h e he
  simp only [Bool.and_eq_true, decide_eq_true_eq] at this
  exact this.2

theorem no_deadlock_of_check (E : Edges) (k : Nat) (hc : acyclicCheck E k = true)
    (n : Nat) (s : State) (h : Reachable E n s) : ¬ Deadlock s :=
  no_deadlock_of_rank E (rankFn E k) (acyclicCheck_sound E k hc) n s h

theorem progress_of_check (E : Edges) (k : Nat) (hc : acyclicCheck E k = true)
    (n : Nat) (s : State) (h : Reachable E n s) (hw : ∃ th ∈ s, th.want ≠ none) :
    ∃ a s', a.isProgress = true ∧ step E s a = some s' :=
  progress_of_rank E (rankFn E k) (acyclicCheck_sound E k hc) n s h hw

/-! ## naming a cycle (for the report when the check fails; not part of any proof) -/

/-- a path of labelled edges from `a` to `b`, at most `fuel` edges long -/
def path (E : List (Nat × Nat × String)) : Nat → Nat → Nat → Option (List (Nat × Nat × String))
  | 0, _, _ => none
  | f + 1, a, b =>
    E.findSome? (fun e =>
      if e.1 == a then
        if e.2.1 == b then some [e] else (path E f e.2.1 b).map (fun p => e :: p)
      else none)

def findCycle (E : List (Nat × Nat × String)) : Option (List (Nat × Nat × String)) :=
  E.findSome? (fun e => path E E.length e.1 e.1)

def describeCycle (names : List String) (c : List (Nat × Nat × String)) : String :=
  let nm := fun (i : Nat) => names.getD i s!"#{i}"
  " ; ".intercalate (c.map (fun e => s!"{nm e.1} -> {nm e.2.1} (in {e.2.2})"))

end Specter.C08.Locks
