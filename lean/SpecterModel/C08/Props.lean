import SpecterModel.C09.Props
/-!
# C08 — A join request is answered with success or a retryable error in every node state

`requestToJoin` / `handOff` are the model of `LocalNode.RequestToJoin` (routing + local hand-off),
tied to the code by the differential ring harness. Theorems hold for EVERY net (any pointer state
of any node, incl. `pred = none` after failure detection and `pred = self`), every contacted node and
every joiner id.
-/
namespace Specter.C08
open Specter.Ring

def errOf {α : Type} : Except Err α → Option Err
  | .ok _ => none
  | .error e => some e

/-- lookup errors: the request never reached a node responsible for the joiner's id -/
def isLookupError : Err → Bool
  | .notStarted | .gone | .noSuccessor | .unreachable | .fuel => true
  | _ => false

theorem handOff_error (net : Net) (s j : Nat) (e : Err) (h : errOf (handOff net s j).2 = some e) :
    (handOff net s j).1 = net ∧ (e.retryable = true ∨ net.get s = none ∧ e = .unreachable) := by
  revert h
  fun_cases handOff net s j with
  | case1 hn =>  -- unknown node
    intro h
    exact ⟨rfl, Or.inr ⟨hn, (Option.some.inj h).symm⟩⟩
  | case2 =>  -- busy
    intro h
    exact ⟨rfl, Or.inl (Option.some.inj h ▸ rfl)⟩
  | case3 =>  -- no predecessor
    intro h
    exact ⟨rfl, Or.inl (Option.some.inj h ▸ rfl)⟩
  | case4 =>  -- the joiner is not in the node's range
    intro h
    exact ⟨rfl, Or.inl (Option.some.inj h ▸ rfl)⟩
  | case5 =>  -- failed transfer
    intro h
    exact ⟨rfl, Or.inl (Option.some.inj h ▸ rfl)⟩
  | case6 =>  -- success
    intro h
    cases h

/-- **C08 (local hand-off).** Whatever the state and pointers of the responsible node, the hand-off
answers with success or a retryable refusal — in particular with `pred = none` (the state left by
`checkPredecessor`) and `pred = self`. -/
theorem handOff_total (net : Net) (s j : Nat) (nd : Node) (hg : net.get s = some nd) :
    ∀ e, errOf (handOff net s j).2 = some e → e.retryable = true := by
  intro e h
  refine (handOff_error net s j e h).2.resolve_right fun ⟨hn, _⟩ => ?_
  rw [hg] at hn
  cases hn

theorem handOff_refusal_unchanged (net : Net) (s j : Nat) (e : Err)
    (h : errOf (handOff net s j).2 = some e) : (handOff net s j).1 = net :=
  (handOff_error net s j e h).1

theorem checkNodeState_isLookupError (nd : Node) (b : Bool) (e : Err) :
    checkNodeState nd b = some e → isLookupError e = true := by
  fun_cases checkNodeState nd b with
  | case1 =>  -- crashed: unreachable
    rintro ⟨⟩
    rfl
  | case2 =>  -- Inactive: not started
    rintro ⟨⟩
    rfl
  | case3 =>  -- Leaving, counted as an error: gone
    rintro ⟨⟩
    rfl
  | case4 => rintro ⟨⟩  -- Leaving, tolerated
  | case5 =>  -- Left: gone
    rintro ⟨⟩
    rfl
  | case6 => rintro ⟨⟩  -- any other state answers

theorem findSucc_err_isLookupError (net : Net) : ∀ (fuel n key : Nat) (e : Err),
    findSucc net fuel n key = .err e → isLookupError e = true := by
  intro fuel n key e
  fun_induction findSucc net fuel n key with
  | case1 =>  -- out of fuel
    rintro ⟨⟩
    rfl
  | case2 =>  -- unknown node
    rintro ⟨⟩
    rfl
  | case3 fuel n key nd hg e' hc =>  -- the node does not answer
    rintro ⟨⟩
    exact checkNodeState_isLookupError _ _ _ hc
  | case4 => rintro ⟨⟩  -- the key is in the node's own range
  | case5 =>  -- no successor
    rintro ⟨⟩
    rfl
  | case6 => rintro ⟨⟩  -- the successor owns the key
  | case7 => assumption  -- forwarded

theorem requestToJoinWith_routes (g : Net → Net) (net : Net) (fuel s j : Nat) :
    (∃ e, requestToJoinWith g net fuel s j = (net, .error e) ∧ (e = .duplicateJoiner ∨ isLookupError e = true)) ∨
    (∃ s', requestToJoinWith g net fuel s j = handOff (g net) s' j) := by
  fun_induction requestToJoinWith g net fuel s j with
  | case1 => exact Or.inl ⟨.fuel, rfl, Or.inr rfl⟩  -- out of fuel
  | case2 => exact Or.inl ⟨.unreachable, rfl, Or.inr rfl⟩  -- unknown node
  | case3 => exact Or.inl ⟨.unreachable, rfl, Or.inr rfl⟩  -- crashed node
  | case4 fuel s j nd hg hup e hf =>  -- the lookup fails
    exact Or.inl ⟨e, rfl, Or.inr (findSucc_err_isLookupError net _ _ _ _ hf)⟩
  | case5 => exact Or.inl ⟨.duplicateJoiner, rfl, Or.inl rfl⟩  -- the joiner's id is taken
  | case6 => assumption  -- forwarded to the node found
  | case7 => exact Or.inr ⟨_, rfl⟩  -- this node is responsible

/-- with `g = id` this is the plain request -/
theorem requestToJoinWith_id (net : Net) : ∀ (fuel s j : Nat),
    requestToJoinWith id net fuel s j = requestToJoin net fuel s j := by
  intro fuel
  induction fuel with
  | zero => intro s j; rfl
  | succ f ih =>
    intro s j
    -- the two definitions differ only in the argument of `handOff` and in the recursive call
    simp only [requestToJoinWith, requestToJoin, ih, id]

/-- **C08 (under concurrent pointer maintenance).** The same classification holds when ANY transformation
`g` of the net (another goroutine's `checkPredecessor`, `stabilize`, `Notify`, a crash …) takes effect
between the routing decision and the membership lock: the hand-off reads the pointers under the lock, so
whatever `g` leaves there — `pred = none` included — is answered, never dereferenced. -/
theorem reqJoinWith_classified (g : Net → Net) (net : Net) : ∀ (fuel s j : Nat) (e : Err),
    errOf (requestToJoinWith g net fuel s j).2 = some e →
      e.retryable = true ∨ e = .duplicateJoiner ∨ isLookupError e = true := by
  intro fuel s j e h
  rcases requestToJoinWith_routes g net fuel s j with ⟨e', hr, he'⟩ | ⟨s', hr⟩
  · rw [hr] at h
    obtain rfl : e' = e := Option.some.inj h
    exact Or.inr he'
  · rw [hr] at h
    exact (handOff_error _ s' j e h).2.elim Or.inl fun ⟨_, he⟩ => Or.inr (Or.inr (he ▸ rfl))

/-- **C08 (whole request).** Every answer of `RequestToJoin`, from any contacted node in any net, is a
success, a retryable refusal, the duplicate-id refusal (the joiner's id is already taken: not a
valid joiner) or a lookup error (the request could not be routed) — never a panic and never
another non-retryable error. -/
theorem reqJoin_classified (net : Net) : ∀ (fuel s j : Nat) (e : Err),
    errOf (requestToJoin net fuel s j).2 = some e →
      e.retryable = true ∨ e = .duplicateJoiner ∨ isLookupError e = true := by
  intro fuel s j e h
  rw [← requestToJoinWith_id] at h
  exact reqJoinWith_classified id net fuel s j e h

/-- a refused join request changes nothing (no state, pointer or key moves anywhere) -/
theorem refusal_changes_nothing (net : Net) : ∀ (fuel s j : Nat) (e : Err),
    errOf (requestToJoin net fuel s j).2 = some e → (requestToJoin net fuel s j).1 = net := by
  intro fuel s j e h
  rw [← requestToJoinWith_id] at h ⊢
  rcases requestToJoinWith_routes id net fuel s j with ⟨e', hr, _⟩ | ⟨s', hr⟩
  · rw [hr]
  · rw [hr] at h ⊢
    exact handOff_refusal_unchanged net s' j e h

/-- The pre-repair hand-off dereferenced the predecessor without a nil check. -/
def handOffOldOutcome (nd : Node) (s j : Nat) : Option Err :=
  if nd.state != .active then some .joinInvalidState else
  match nd.pred with
  | none => some .panic                          -- `prevPredecessor.ID()` on a nil interface
  | some prev => if !between prev j s false then some .joinInvalidSuccessor else none

/-- Ring 100 → 200 → 300 → 400; node 300 died; 400 ran `checkPredecessor` (pred := nil); 200 has
already repaired its successor list to 400 but its `Notify(400)` has not been delivered yet. -/
def lostNotifyNet : Net :=
  let dead : Node := { state := .active, pred := some 200, succs := [400, 100], crashed := true }
  let n0 : Net :=
    [(100, { state := .active, pred := some 400, succs := [200, 300, 400], fingers := List.replicate 48 (some 200) }),
     (200, { state := .active, pred := some 100, succs := [300, 400, 100], fingers := List.replicate 48 (some 400) }),
     (300, dead),
     (400, { state := .active, pred := some 300, succs := [100, 200, 300], fingers := List.replicate 48 (some 100) })]
  stabilizeNoNotify (checkPredecessor n0 400) 200

example : (lostNotifyNet.get 400).map (·.pred) = some none := by decide +kernel
example : (lostNotifyNet.get 200).map (·.succs) = some [400, 100, 200] := by decide +kernel
/-- the join request for id 350 issued at node 100 is routed to node 400 … -/
example : findSucc lostNotifyNet FUEL 100 350 = .found 400 := by decide +kernel
/-- … where the old code panicked … -/
theorem old_code_panics :
    (lostNotifyNet.get 400).bind (fun nd => handOffOldOutcome nd 400 350) = some .panic := by decide +kernel
/-- … and the repaired code answers with a retryable refusal and changes nothing. -/
example : errOf (requestToJoin lostNotifyNet 4 100 350).2 = some .joinInvalidState := by decide +kernel

end Specter.C08
