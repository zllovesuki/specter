import SpecterModel.C43.Model
/-!
# C43 — Tunnel sync assigns each tunnel a distinct hostname

Theorems about the model of `SyncConfigTunnels` (`Model.lean`, tied to the real function by the
differential harness `harness/cmd/c43`).

Reading of the statement: hostnames that are already configured are kept *verbatim* — so if the
configuration itself lists one hostname twice, that duplicate survives; `distinct` says those are
the ONLY possible duplicates, `no_shared_hostname` is the clean statement for configurations without
such duplicates.  Hypotheses that are contracts of the server side and not of this code:
`registered.Nodup` (PrefixList is a set), and `FreshOK` (a generated hostname is new: not generated
twice, not already registered to this client, not already in the configuration).
-/
namespace Specter.C43

/-! ## the loop -/

theorem somes_eq_filterMap (s : List (Option String)) : somes s = s.filterMap id := by
  fun_induction somes s <;> simp [*]

theorem mem_somes {n : String} {s : List (Option String)} : n ∈ somes s ↔ some n ∈ s := by
  simp [somes_eq_filterMap]

theorem somes_length_le (s : List (Option String)) : (somes s).length ≤ s.length :=
  somes_eq_filterMap s ▸ List.length_filterMap_le id s

theorem somes_length_of_ok {s : List (Option String)} (hok : ∀ x ∈ s, x ≠ none) : (somes s).length = s.length := by
  rw [somes_eq_filterMap, List.filterMap_length_eq_length]
  exact fun x hx => Option.isSome_iff_ne_none.mpr (hok x hx)

theorem somes_stream (av : List String) (fr : List (Option String)) : somes (av.map some ++ fr) = av ++ somes fr := by
  simp [somes_eq_filterMap, List.filterMap_map]

/-- requests among the first `k` calls of a script that failed (a call beyond the script fails) -/
def failedCalls (k : Nat) (fr : List (Option String)) : Nat := k - (somes (fr.take k)).length

theorem failedCalls_nil (k : Nat) : failedCalls k [] = k := by
  simp [failedCalls, somes]

theorem failedCalls_succ_some (k : Nat) (n : String) (s : List (Option String)) :
    failedCalls (k + 1) (some n :: s) = failedCalls k s := by
  simp [failedCalls, somes]

theorem failedCalls_succ_none (k : Nat) (s : List (Option String)) :
    failedCalls (k + 1) (none :: s) = failedCalls k s + 1 :=
  Nat.sub_add_comm (Nat.le_trans (somes_length_le (s.take k)) (List.length_take_le k s))

theorem failedCalls_eq_zero {k : Nat} {s : List (Option String)} (hok : ∀ x ∈ s, x ≠ none) (hlen : k ≤ s.length) :
    failedCalls k s = 0 := by
  rw [failedCalls, somes_length_of_ok fun x hx => hok x (List.mem_of_mem_take hx), List.length_take,
    Nat.min_eq_left hlen, Nat.sub_self]

theorem failedCalls_reuse (k : Nat) (av : List String) (fr : List (Option String)) :
    failedCalls k (av.map some ++ fr) = failedCalls (k - av.length) fr := by
  induction av generalizing k with
  | nil => rfl
  | cons a av ih =>
    cases k with
    | zero => simp [failedCalls]
    | succ k => rw [List.map_cons, List.cons_append, failedCalls_succ_some, ih, List.length_cons, Nat.add_sub_add_right]

theorem needy_nil : needy [] = 0 := rfl

theorem needy_cons_pos {t : Tunnel} (ts : List Tunnel) (h : t.target ≠ "" ∧ t.host = "") :
    needy (t :: ts) = needy ts + 1 := by
  simp [needy, h]

theorem needy_cons_neg {t : Tunnel} (ts : List Tunnel) (h : ¬(t.target ≠ "" ∧ t.host = "")) :
    needy (t :: ts) = needy ts := by
  simp [needy, h]

theorem needy_eq_zero {ts : List Tunnel} : needy ts = 0 ↔ ∀ t ∈ ts, t.target ≠ "" → t.host ≠ "" := by
  simp [needy]

/-- The loop as a consumer of ONE stream of answers: the reusable names, each a success, then the script
of `GenerateHostname`. An exhausted stream fails. -/
def fill : List Tunnel → List (Option String) → List Tunnel
  | [], _ => []
  | t :: ts, s =>
    if t.target ≠ "" ∧ t.host = "" then
      match s with
      | some n :: s' => { t with host := n } :: fill ts s'
      | none :: s' => t :: fill ts s'
      | [] => t :: fill ts []
    else t :: fill ts s

theorem assign_eq_fill (ts : List Tunnel) (av : List String) (fr : List (Option String)) :
    (assign ts av fr).1 = fill ts (av.map some ++ fr) := by
  fun_induction assign ts av fr <;> simp_all +zetaDelta [fill]

theorem assign_calls (ts : List Tunnel) (av : List String) (fr : List (Option String)) :
    (assign ts av fr).2 = needy ts - av.length := by
  fun_induction assign ts av fr <;> simp_all +zetaDelta [needy_nil, needy_cons_pos, needy_cons_neg] <;> omega

theorem fill_length (ts : List Tunnel) (s : List (Option String)) : (fill ts s).length = ts.length := by
  fun_induction fill ts s <;> simp [*]

theorem fill_pointwise (ts : List Tunnel) (s : List (Option String)) :
    ∀ p ∈ ts.zip (fill ts s), p.2.target = p.1.target ∧
      (p.2 = p.1 ∨ (p.1.host = "" ∧ p.1.target ≠ "" ∧ some p.2.host ∈ s)) := by
  fun_induction fill ts s with
  | case1 => simp
  | case2 t ts h n s ih | case3 t ts h s ih =>
    rw [List.zip_cons_cons, List.forall_mem_cons]
    exact ⟨by simp [h], fun p hp =>
      ⟨(ih p hp).1, (ih p hp).2.imp_right (.imp_right (.imp_right (List.mem_cons_of_mem _)))⟩⟩
  | case4 t ts h ih | case5 t ts s h ih =>
    rw [List.zip_cons_cons, List.forall_mem_cons]
    exact ⟨by simp, ih⟩

/-- relation "the only way two output tunnels share a hostname is that both kept a configured one" -/
def OnlyConfiguredDup (p q : Tunnel × Tunnel) : Prop :=
  p.2.host = q.2.host → p.2 = p.1 ∧ q.2 = q.1

theorem kept_of_not_name {ts : List Tunnel} {s : List (Option String)} {h : String} {q : Tunnel × Tunnel}
    (hq : q ∈ ts.zip (fill ts s)) (hh : h ∉ somes s) (e : q.2.host = h) : q.2 = q.1 :=
  (fill_pointwise ts s q hq).2.resolve_right fun h3 => hh (mem_somes.mpr (e ▸ h3.2.2))

theorem not_configured_tail {t : Tunnel} {ts : List Tunnel} {s : List (Option String)}
    (h : ∀ n ∈ somes s, n ∉ hosts (t :: ts)) : ∀ n ∈ somes s, n ∉ hosts ts :=
  fun n hn hm => h n hn (List.mem_cons_of_mem _ hm)

theorem fill_pairwise (ts : List Tunnel) (s : List (Option String)) (hnd : (somes s).Nodup)
    (hcfg : ∀ n ∈ somes s, n ∉ hosts ts) : (ts.zip (fill ts s)).Pairwise OnlyConfiguredDup := by
  fun_induction fill ts s with
  | case1 => exact .nil
  | case2 t ts h n s ih =>
    rw [List.zip_cons_cons, List.pairwise_cons]
    simp only [somes, List.nodup_cons, List.forall_mem_cons] at hnd hcfg
    refine ⟨fun q hq e => ?_, ih hnd.2 (not_configured_tail hcfg.2)⟩
    -- a later tunnel carrying the fresh `n` kept it from the configuration, where `n` does not occur
    have hk := kept_of_not_name hq hnd.1 e.symm
    exact absurd (List.mem_cons_of_mem _ (List.mem_map.mpr ⟨q.1, (List.of_mem_zip hq).1, hk ▸ e.symm⟩)) hcfg.1
  | case3 t ts h s ih | case4 t ts h ih | case5 t ts s h ih =>
    rw [List.zip_cons_cons, List.pairwise_cons]
    -- `t` keeps its hostname, which is none of the names still to come
    exact ⟨fun q hq e => ⟨rfl, kept_of_not_name hq (fun hm => hcfg _ hm List.mem_cons_self) e.symm⟩,
      ih hnd (not_configured_tail hcfg)⟩

theorem fill_uses (ts : List Tunnel) (s : List (Option String)) :
    ∀ n, some n ∈ s.take (needy ts) → n ∈ hosts (fill ts s) := by
  fun_induction fill ts s
  case case1 => simp [needy_nil]
  case case2 t ts h n s ih =>
    intro m hm
    rw [needy_cons_pos ts h, List.take_succ_cons, List.mem_cons, Option.some.injEq] at hm
    exact hm.elim (· ▸ List.mem_cons_self) fun hm => List.mem_cons_of_mem _ (ih m hm)
  case case3 t ts h s ih =>
    intro m hm
    rw [needy_cons_pos ts h, List.take_succ_cons, List.mem_cons] at hm
    exact List.mem_cons_of_mem _ (ih m (hm.resolve_left nofun))
  case case4 => simp
  case case5 t ts s h ih =>
    rw [needy_cons_neg ts h]
    exact fun m hm => List.mem_cons_of_mem _ (ih m hm)

theorem fill_unnamed (ts : List Tunnel) (s : List (Option String)) (hcfg : ∀ n ∈ somes s, n ∉ hosts ts) :
    needy (fill ts s) = failedCalls (needy ts) s := by
  fun_induction fill ts s
  case case1 => rfl
  case case2 t ts h n s ih =>
    simp only [somes, List.forall_mem_cons] at hcfg
    -- `n` differs from the configured hostname `""` of `t`: the renamed tunnel no longer needs a name
    have hn : ¬(t.target ≠ "" ∧ n = "") := fun e => hcfg.1 (e.2 ▸ h.2 ▸ List.mem_cons_self)
    rw [needy_cons_neg _ hn, needy_cons_pos ts h, failedCalls_succ_some, ih (not_configured_tail hcfg.2)]
  case case3 t ts h s ih =>
    rw [needy_cons_pos _ h, needy_cons_pos ts h, failedCalls_succ_none, ih (not_configured_tail hcfg)]
  case case4 t ts h ih =>
    rw [needy_cons_pos _ h, needy_cons_pos ts h, failedCalls_nil, ih (not_configured_tail hcfg), failedCalls_nil]
  case case5 t ts s h ih => rw [needy_cons_neg _ h, needy_cons_neg ts h, ih (not_configured_tail hcfg)]

theorem pairwise_getElem_of_symm {α} {R : α → α → Prop} {l : List α} (h : l.Pairwise R)
    (hsym : ∀ a b, R a b → R b a) {i j : Nat} (hij : i ≠ j) (hi : i < l.length) (hj : j < l.length) :
    R l[i] l[j] := by
  rcases Nat.lt_or_gt_of_ne hij with h' | h'
  · exact List.pairwise_iff_getElem.mp h i j hi hj h'
  · exact hsym _ _ (List.pairwise_iff_getElem.mp h j i hj hi h')

/-! ## property theorems about `sync` -/

/-- A generated hostname is new. -/
structure FreshOK (ts : List Tunnel) (reg : List String) (fr : List (Option String)) : Prop where
  nodup : (somes fr).Nodup
  notRegistered : ∀ n ∈ somes fr, n ∉ reg
  notConfigured : ∀ n ∈ somes fr, n ∉ hosts ts

theorem mem_available {ts : List Tunnel} {reg : List String} {a : String} (h : a ∈ available ts reg) :
    a ∈ reg ∧ dotted a = false ∧ a ∉ hosts ts := by
  simpa [available] using h

theorem sync_out (ts : List Tunnel) (reg : List String) (fr : List (Option String)) :
    (sync ts (some reg) fr).out = fill ts ((available ts reg).map some ++ fr) :=
  assign_eq_fill ts (available ts reg) fr

theorem sync_calls (ts : List Tunnel) (reg : List String) (fr : List (Option String)) :
    (sync ts (some reg) fr).calls = needy ts - (available ts reg).length :=
  assign_calls ts (available ts reg) fr

theorem stream_not_configured {ts : List Tunnel} {fr : List (Option String)} (reg : List String)
    (hcfg : ∀ n ∈ somes fr, n ∉ hosts ts) : ∀ n ∈ somes ((available ts reg).map some ++ fr), n ∉ hosts ts := by
  intro n hn
  rw [somes_stream, List.mem_append] at hn
  exact hn.elim (fun h => (mem_available h).2.2) (hcfg n)

/-- The tunnel list keeps its length and order; targets never change; a tunnel that
already has a hostname is untouched; so is every tunnel when `RegisteredHostnames` fails. -/
theorem configured_kept (ts : List Tunnel) (reg : Option (List String)) (fr : List (Option String)) :
    (sync ts reg fr).out.length = ts.length ∧
    ∀ p ∈ ts.zip (sync ts reg fr).out, p.2.target = p.1.target ∧ (p.1.host ≠ "" → p.2 = p.1) := by
  cases reg with
  | none =>
    refine ⟨rfl, fun p hp => ?_⟩
    obtain ⟨i, _, rfl⟩ := List.mem_iff_getElem.mp hp
    simp [sync]
  | some r =>
    rw [sync_out]
    refine ⟨fill_length _ _, fun p hp => ?_⟩
    have := fill_pointwise ts _ p hp
    exact ⟨this.1, fun hne => this.2.resolve_right fun h => hne h.1⟩

/-- A hostname the sync newly puts on a tunnel is either a generated
one, or a registered, dot-free hostname that no tunnel of the configuration uses; and only tunnels
with a target and without hostname receive one. -/
theorem reuse_only_autogenerated_unused (ts : List Tunnel) (reg : List String) (fr : List (Option String)) :
    ∀ p ∈ ts.zip (sync ts (some reg) fr).out, p.2 ≠ p.1 →
      p.1.host = "" ∧ p.1.target ≠ "" ∧
      ((p.2.host ∈ reg ∧ dotted p.2.host = false ∧ p.2.host ∉ hosts ts) ∨ some p.2.host ∈ fr) := by
  intro p hp hne
  rw [sync_out] at hp
  obtain ⟨h1, h2, h3⟩ := (fill_pointwise ts _ p hp).2.resolve_left hne
  refine ⟨h1, h2, (List.mem_append.mp h3).imp_left fun h => ?_⟩
  obtain ⟨a, ha, e⟩ := List.mem_map.mp h
  exact Option.some.inj e ▸ mem_available ha

/-- The number of `GenerateHostname` calls is exactly the number of tunnels
needing a name beyond the reusable hostnames, and whenever a call is made every reusable hostname
has been put on some tunnel. -/
theorem reuse_before_request (ts : List Tunnel) (reg : List String) (fr : List (Option String)) :
    (sync ts (some reg) fr).calls = needy ts - (available ts reg).length ∧
    ((sync ts (some reg) fr).calls > 0 →
      ∀ a ∈ available ts reg, ∃ t' ∈ (sync ts (some reg) fr).out, t'.host = a) := by
  refine ⟨sync_calls ts reg fr, fun hpos a ha => ?_⟩
  rw [sync_calls] at hpos
  rw [sync_out]
  refine List.mem_map.mp (fill_uses ts _ a ?_)
  -- a call was made, so the reusable names all lie within the first `needy ts` answers
  rw [List.take_append,
    List.take_of_length_le (by rw [List.length_map]; exact Nat.le_of_lt (Nat.lt_of_sub_pos hpos))]
  exact List.mem_append_left _ (List.mem_map_of_mem ha)

/-- "Each tunnel with a target has a hostname", for runs in which requests may fail: after the sync the
tunnels with a target and without hostname are exactly as many as `GenerateHostname` calls failed — a
failing request leaves its own tunnel unnamed and costs no other tunnel its name. -/
theorem unnamed_only_after_failed_request (ts : List Tunnel) (reg : List String) (fr : List (Option String))
    (hcfg : ∀ n ∈ somes fr, n ∉ hosts ts) :
    needy (sync ts (some reg) fr).out = failedCalls (sync ts (some reg) fr).calls fr := by
  rw [sync_out, sync_calls, fill_unnamed ts _ (stream_not_configured reg hcfg), failedCalls_reuse]

/-- When no `GenerateHostname` call fails (the script is long enough and has no
failure), every tunnel with a target has a hostname afterwards. -/
theorem every_target_named (ts : List Tunnel) (reg : List String) (fr : List (Option String))
    (hcfg : ∀ n ∈ somes fr, n ∉ hosts ts) (hok : ∀ x ∈ fr, x ≠ none)
    (hlen : needy ts ≤ (available ts reg).length + fr.length) :
    ∀ t' ∈ (sync ts (some reg) fr).out, t'.target ≠ "" → t'.host ≠ "" := by
  rw [← needy_eq_zero, unnamed_only_after_failed_request ts reg fr hcfg, sync_calls]
  exact failedCalls_eq_zero hok (Nat.sub_le_iff_le_add'.mpr hlen)

/-- Two different positions of the synchronised list carry the same hostname only if both
tunnels were configured with it already (both are untouched). -/
theorem distinct (ts : List Tunnel) (reg : List String) (fr : List (Option String))
    (hreg : reg.Nodup) (hf : FreshOK ts reg fr) :
    (ts.zip (sync ts (some reg) fr).out).Pairwise OnlyConfiguredDup := by
  rw [sync_out]
  refine fill_pairwise ts _ ?_ (stream_not_configured reg hf.notConfigured)
  rw [somes_stream]
  exact List.nodup_append.mpr ⟨hreg.filter _, hf.nodup,
    fun a ha b hb hab => hf.notRegistered b hb (hab ▸ (mem_available ha).1)⟩

/-- index form of `distinct` -/
theorem distinct_idx (ts : List Tunnel) (reg : List String) (fr : List (Option String))
    (hreg : reg.Nodup) (hf : FreshOK ts reg fr) (i j : Nat) (hij : i ≠ j)
    (hi : i < ts.length) (hj : j < ts.length)
    (hi' : i < (sync ts (some reg) fr).out.length) (hj' : j < (sync ts (some reg) fr).out.length)
    (heq : (sync ts (some reg) fr).out[i].host = (sync ts (some reg) fr).out[j].host) :
    (sync ts (some reg) fr).out[i] = ts[i] ∧ (sync ts (some reg) fr).out[j] = ts[j] := by
  have := pairwise_getElem_of_symm (distinct ts reg fr hreg hf) (fun _ _ h e => (h e.symm).symm) hij
    (List.length_zip ▸ Nat.lt_min.mpr ⟨hi, hi'⟩) (List.length_zip ▸ Nat.lt_min.mpr ⟨hj, hj'⟩)
  rw [List.getElem_zip, List.getElem_zip] at this
  exact this heq

/-- Distinctness in its clean form, failing requests included: whatever
requests fail, a non-empty hostname of the synchronised list is carried by exactly one tunnel. In
particular a tunnel whose request failed does not inherit the hostname handed to an earlier tunnel. -/
theorem no_shared_hostname_faulty (ts : List Tunnel) (reg : List String) (fr : List (Option String))
    (hreg : reg.Nodup) (hf : FreshOK ts reg fr)
    (hcfg : ts.Pairwise fun a b => a.host = b.host → a.host = "")
    (i j : Nat) (hij : i ≠ j)
    (hi : i < (sync ts (some reg) fr).out.length) (hj : j < (sync ts (some reg) fr).out.length)
    (hni : (sync ts (some reg) fr).out[i].host ≠ "") :
    (sync ts (some reg) fr).out[i].host ≠ (sync ts (some reg) fr).out[j].host := by
  intro heq
  have hlen := (configured_kept ts (some reg) fr).1
  -- two tunnels sharing a hostname both kept it from the configuration, which shares only `""`
  obtain ⟨ei, ej⟩ := distinct_idx ts reg fr hreg hf i j hij (hlen ▸ hi) (hlen ▸ hj) hi hj heq
  rw [ei, ej] at heq
  rw [ei] at hni
  exact hni (pairwise_getElem_of_symm hcfg (fun _ _ h e => e.trans (h e.symm)) hij _ _ heq)

/-- The statement in its clean form: when no request fails, a tunnel with a target
ends with a non-empty hostname that no other tunnel of the list carries. -/
theorem no_shared_hostname (ts : List Tunnel) (reg : List String) (fr : List (Option String))
    (hreg : reg.Nodup) (hf : FreshOK ts reg fr)
    (hcfg : ts.Pairwise fun a b => a.host = b.host → a.host = "")
    (hok : ∀ x ∈ fr, x ≠ none) (hlen : needy ts ≤ (available ts reg).length + fr.length)
    (i j : Nat) (hij : i ≠ j)
    (hi : i < (sync ts (some reg) fr).out.length) (hj : j < (sync ts (some reg) fr).out.length)
    (hti : (sync ts (some reg) fr).out[i].target ≠ "") :
    (sync ts (some reg) fr).out[i].host ≠ "" ∧
    (sync ts (some reg) fr).out[i].host ≠ (sync ts (some reg) fr).out[j].host :=
  have hni := every_target_named ts reg fr hf.notConfigured hok hlen _ (List.getElem_mem hi) hti
  ⟨hni, no_shared_hostname_faulty ts reg fr hreg hf hcfg i j hij hi hj hni⟩

/-! ## non-vacuity: concrete instances satisfying the hypotheses (and exercising reuse + request) -/

def exTs : List Tunnel :=
  [⟨"tcp://a", ""⟩, ⟨"tcp://b", "kept"⟩, ⟨"", ""⟩, ⟨"tcp://c", ""⟩, ⟨"tcp://d", "my.custom.com"⟩]
def exReg : List String := ["kept", "old1", "other.custom.com"]
def exFr : List (Option String) := [some "new1", some "new2"]

example : (sync exTs (some exReg) exFr).out =
    [⟨"tcp://a", "old1"⟩, ⟨"tcp://b", "kept"⟩, ⟨"", ""⟩, ⟨"tcp://c", "new1"⟩, ⟨"tcp://d", "my.custom.com"⟩] ∧
    (sync exTs (some exReg) exFr).calls = 1 := by decide +kernel
example : exReg.Nodup := by decide +kernel
example : FreshOK exTs exReg exFr := ⟨by decide +kernel, by decide +kernel, by decide +kernel⟩
example : ∀ x ∈ exFr, x ≠ none := by decide +kernel
example : needy exTs ≤ (available exTs exReg).length + exFr.length := by decide +kernel
example : exTs.Pairwise fun a b => a.host = b.host → a.host = "" := by decide +kernel
/-- a duplicate that the configuration already contains is kept (why `distinct` is stated that way) -/
example : (sync [⟨"tcp://a", "x"⟩, ⟨"tcp://b", "x"⟩] (some []) []).out = [⟨"tcp://a", "x"⟩, ⟨"tcp://b", "x"⟩] := by decide +kernel
/-- without `registered.Nodup` the property fails: the hypothesis is needed -/
example : (sync [⟨"tcp://a", ""⟩, ⟨"tcp://b", ""⟩] (some ["r", "r"]) []).out = [⟨"tcp://a", "r"⟩, ⟨"tcp://b", "r"⟩] := by decide +kernel

/-- failing requests: reuse, then a failing request, then a successful one — the tunnel whose request
failed stays unnamed (it does not inherit `old1`), everything else is named apart -/
def exFrF : List (Option String) := [none, some "new1"]
def exTsF : List Tunnel := exTs ++ [⟨"tcp://e", ""⟩]
example : (sync exTsF (some exReg) exFrF).out =
    [⟨"tcp://a", "old1"⟩, ⟨"tcp://b", "kept"⟩, ⟨"", ""⟩, ⟨"tcp://c", ""⟩, ⟨"tcp://d", "my.custom.com"⟩, ⟨"tcp://e", "new1"⟩] ∧
    (sync exTsF (some exReg) exFrF).calls = 2 ∧ failedCalls 2 exFrF = 1 := by decide +kernel
example : FreshOK exTsF exReg exFrF := ⟨by decide +kernel, by decide +kernel, by decide +kernel⟩
example : exTsF.Pairwise fun a b => a.host = b.host → a.host = "" := by decide +kernel
example : ∀ n ∈ somes exFrF, n ∉ hosts exTsF := by decide +kernel

/-! ## a tunnel removed (UnpublishTunnel / ReleaseTunnel) while the sync waits for an RPC

The sync assigns on a private copy of the tunnel list, so a removal that arrives in the middle only
edits the live configuration; the properties above hold for the outcome of such a sync unchanged. -/

theorem removeHost_eq_eraseP (h : String) (ts : List Tunnel) : removeHost h ts = ts.eraseP (·.host = h) := by
  fun_induction removeHost h ts <;> simp [*]

/-- `tunnelRemovalWrapper` only deletes: what is left is a sublist of the configuration. -/
theorem removeHost_sublist (h : String) (ts : List Tunnel) : (removeHost h ts).Sublist ts :=
  removeHost_eq_eraseP h ts ▸ List.eraseP_sublist

/-- it deletes exactly one tunnel carrying `h` if there is one, and nothing otherwise -/
theorem removeHost_length (h : String) (ts : List Tunnel) :
    (removeHost h ts).length = if h ∈ hosts ts then ts.length - 1 else ts.length := by
  rw [removeHost_eq_eraseP, List.length_eraseP]
  simp [hosts]

/-- Snapshot isolation: with the registered hostnames known, a removal arriving at ANY RPC of the sync,
for ANY hostname, leaves the sync's outcome (tunnel list written back, GenerateHostname calls,
hostnames published) exactly that of the undisturbed sync. -/
theorem syncRm_known (ts : List Tunnel) (reg : List String) (fr : List (Option String)) (pt : Point) (h : String) :
    (syncRm ts (some reg) fr pt h).res = sync ts (some reg) fr := by
  simp only [syncRm]
  split <;> rfl

/-- the live configuration right after the removal is the configured list minus (at most) that tunnel:
the later tunnels are neither duplicated nor changed -/
theorem syncRm_mid (ts : List Tunnel) (reg : Option (List String)) (fr : List (Option String)) (pt : Point) (h : String)
    (m : List Tunnel) (hm : (syncRm ts reg fr pt h).mid = some m) : m = removeHost h ts := by
  revert hm
  fun_cases syncRm ts reg fr pt h
  case case1 => exact nofun      -- the sync never reaches `pt`
  case case2 | case3 => exact fun hm => (Option.some.inj hm).symm

/-- The statement for a sync disturbed by a removal (failing requests allowed): whenever and whatever is
removed meanwhile, a non-empty hostname of the resulting list is carried by exactly one tunnel. -/
theorem no_shared_hostname_rm (ts : List Tunnel) (reg : List String) (fr : List (Option String))
    (pt : Point) (h : String)
    (hreg : reg.Nodup) (hf : FreshOK ts reg fr)
    (hcfg : ts.Pairwise fun a b => a.host = b.host → a.host = "")
    (i j : Nat) (hij : i ≠ j)
    (hi : i < (syncRm ts (some reg) fr pt h).res.out.length) (hj : j < (syncRm ts (some reg) fr pt h).res.out.length)
    (hni : (syncRm ts (some reg) fr pt h).res.out[i].host ≠ "") :
    (syncRm ts (some reg) fr pt h).res.out[i].host ≠ (syncRm ts (some reg) fr pt h).res.out[j].host := by
  revert hi hj hni
  rw [syncRm_known]
  exact no_shared_hostname_faulty ts reg fr hreg hf hcfg i j hij

/-- ... and with no failing request every tunnel with a target is named (clean form, as `no_shared_hostname`) -/
theorem every_target_named_rm (ts : List Tunnel) (reg : List String) (fr : List (Option String))
    (pt : Point) (h : String)
    (hcfg : ∀ n ∈ somes fr, n ∉ hosts ts) (hok : ∀ x ∈ fr, x ≠ none)
    (hlen : needy ts ≤ (available ts reg).length + fr.length) :
    ∀ t' ∈ (syncRm ts (some reg) fr pt h).res.out, t'.target ≠ "" → t'.host ≠ "" := by
  rw [syncRm_known]
  exact every_target_named ts reg fr hcfg hok hlen

/-- RegisteredHostnames failed (early return): the configuration afterwards is the configured list minus
at most the removed tunnel, so a configuration without a shared hostname stays one. -/
theorem syncRm_unknown (ts : List Tunnel) (fr : List (Option String)) (pt : Point) (h : String) :
    (syncRm ts none fr pt h).res.out.Sublist ts ∧
    ∀ R : Tunnel → Tunnel → Prop, ts.Pairwise R → (syncRm ts none fr pt h).res.out.Pairwise R := by
  have hs : (syncRm ts none fr pt h).res.out.Sublist ts := by
    simp only [syncRm]
    split
    · exact List.Sublist.refl ts
    · exact removeHost_sublist h ts
  exact ⟨hs, fun R hR => hR.sublist hs⟩

/-! ### non-vacuity: the middle tunnel is unpublished while the sync waits for RegisteredHostnames -/
example : syncRm exTs (some exReg) exFr .reg "kept" =
    { res := sync exTs (some exReg) exFr,
      mid := some [⟨"tcp://a", ""⟩, ⟨"", ""⟩, ⟨"tcp://c", ""⟩, ⟨"tcp://d", "my.custom.com"⟩] } :=
  -- the sync's own result is untouched by definition; only the removal is computed
  congrArg (ResultRm.mk _ ∘ some) (by decide +kernel : removeHost "kept" exTs = _)
/-- a point the sync never reaches: nothing is removed -/
example : (syncRm exTs (some exReg) exFr (.gen 1) "kept").mid = none := by decide +kernel
example : (syncRm exTs (some exReg) exFr (.gen 0) "kept").mid = some (removeHost "kept" exTs) := by decide +kernel
example : (syncRm exTs none exFr .reg "kept").res.out =
    [⟨"tcp://a", ""⟩, ⟨"", ""⟩, ⟨"tcp://c", ""⟩, ⟨"tcp://d", "my.custom.com"⟩] := by decide +kernel
example : removeHost "nope" exTs = exTs := by decide +kernel

end Specter.C43
