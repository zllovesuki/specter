import SpecterModel.C03.Props
import SpecterModel.C08.Props
/-!
# C04 — DHT KV operations stay linearizable while the ring changes

In the ring model a routed KV operation is ONE atomic step (`kvAt`; the Go handler runs under
`surrogateMu.RLock`, transfers under `surrogateMu.Lock`). Proved for EVERY net (any churn state):

* `kvAt_atomic`: the step either fails in routing and leaves the whole net unchanged, or applies
  `kvLocal` to the store of exactly ONE node and changes nothing else — an operation never takes effect
  at two places or partially;
* `kv_errors_classified`: a routing failure is `ErrKVStaleOwnership` (retryable) or a lookup error
  (the request could not be routed at all); no other error can be produced outside the store itself;
* on a stable quiescent ring the executing node is the key's owner (`C03.kv_at_owner`), so all entry
  nodes act on one sequential object per key.

PARTIAL: that the interleaving of real goroutines is equivalent to a sequence of such atomic steps is
the Go mutex / CAS assumption (C13, C18) and is validated, not proved: client goroutines issue operations
through random entry nodes of real LocalNodes with real timers while joins and leaves run; the recorded
invoke/return history of every key is decided linearizable by the Wing–Gong search written in Lean
against the sequential register / set specification (`C18.linearizable`), failed operations must carry a
retryable error and are given no linearization point.
-/
namespace Specter.C04
open Specter.Ring

def isRoutingError : Err → Bool
  | .kvStale | .notStarted | .noSuccessor | .unreachable | .fuel => true
  | _ => false

/-- **Atomicity.** A routed KV operation either changes nothing (routing failure) or is `kvLocal` applied
to the store of exactly one node. -/
theorem kvAt_atomic (net : Net) : ∀ (fuel n : Nat) (k : String) (h : Nat) (op : KvOp),
    (∃ e, isRoutingError e = true ∧ kvAt net fuel n k h op = (net, .err e)) ∨
    (∃ o nd, net.get o = some nd ∧
      kvAt net fuel n k h op =
        (net.upd o (fun nd' => { nd' with store := (kvLocal nd.store k h op).1 }), (kvLocal nd.store k h op).2)) := by
  intro fuel n k h op
  fun_induction kvAt net fuel n k h op
  -- forwarded to the successor found, or to the surrogate
  case case7 ih | case9 ih => exact ih
  -- executed at `n`
  case case11 hl | case13 hl => exact .inr ⟨_, _, ‹net.get _ = some _›, by rw [hl]⟩
  -- a lookup error other than the two that are reported as stale ownership
  case case6 e _ _ hf =>
    have := Specter.C08.findSucc_err_isLookupError net _ _ _ _ hf
    exact .inl ⟨e, by cases e <;> simp_all [Specter.C08.isLookupError, isRoutingError], rfl⟩
  -- every other leaf of the definition answers `(net, .err e)` with `e` one of fuel, unreachable, kvStale
  all_goals exact .inl ⟨_, by rfl, rfl⟩

theorem kvLocal_errors (st : List KEntry) (k : String) (h : Nat) (op : KvOp) (e : Err)
    (he : (kvLocal st k h op).2 = .err e) : e = .kvPrefixConflict ∧ (kvLocal st k h op).1 = st := by
  revert he
  fun_cases kvLocal st k h op
  -- `PrefixAppend` of a child that is there already: the one branch that answers an error
  case case4 => rintro ⟨⟩; exact ⟨rfl, rfl⟩
  all_goals exact nofun

/-- **Error classification.** Whatever a routed operation returns as an error is a routing error
(retryable `ErrKVStaleOwnership`, or the request could not be routed) or the documented KV conflict. -/
theorem kv_errors_classified (net : Net) (fuel n : Nat) (k : String) (h : Nat) (op : KvOp) (e : Err)
    (hout : (kvAt net fuel n k h op).2 = .err e) : isRoutingError e = true ∨ e = .kvPrefixConflict := by
  rcases kvAt_atomic net fuel n k h op with ⟨e', hr, h1⟩ | ⟨o, nd, hg, h1⟩
  · rw [h1] at hout; simp at hout; subst hout; exact Or.inl hr
  · rw [h1] at hout; exact Or.inr (kvLocal_errors nd.store k h op e hout).1

example : Err.kvStale.retryable = true := rfl

end Specter.C04
